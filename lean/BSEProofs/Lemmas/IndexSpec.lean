import BSEProofs.Lemmas.Dict
import BSEModel.Index
import BSEProofs.Lemmas.ComposeSpec

/-! # The index builder lists exactly the table files, each with the elements its composition has

The two folds of `create_metadata_file` — over the table files of one basis (`versionInfo`) and over the metadata files of the
directory (`createMetadata`) — each with its loop body named, tied back by `rfl`, and one lemma that says what the fold returns. -/

namespace BSE.Index
open BSE.Compose

/-- the version string of a table file name `base.ver.table.json` -/
def versionField (t : String) : String := (splitOn '.' (basename t)).getD 1 ""

/-- the body of the fold in `versionInfo`, copied out of the model so that it can be named (`versionInfo_eq` ties it back by `rfl`) -/
def viStep (dir : Dir) (acc : Dict × Option J × Option Dict) (t : String) : Except PyErr (Dict × Option J × Option Dict) := do
  let parts := splitOn '.' (basename t)
  if parts.length ≠ 4 then throw PyErr.value else
  let ver := parts.getD 1 ""
  let bs ← composeTable dir t
  let els ← asObj (← getKey bs "elements")
  let ft ← getKey bs "function_types"
  match acc.2.1 with
  | some ft0 => if !(ft0 == ft) then throw PyErr.runtime
  | none => pure ()
  let rec_ : J := .obj [("file_relpath", .str t), ("revdesc", ← getKey bs "revision_description"),
    ("revdate", ← getKey bs "revision_date"), ("elements", .arr ((sortNum (Dict.keys els)).map .str))]
  pure (Dict.set acc.1 ver rec_, some (acc.2.1.getD ft), some bs)

theorem versionInfo_eq (dir : Dir) (tables : List String) :
    versionInfo dir tables = tables.foldlM (viStep dir) ([], none, none) := rfl

theorem viStep_spec (dir : Dir) (acc acc' : Dict × Option J × Option Dict) (t : String) (h : viStep dir acc t = .ok acc') :
    ∃ rec_ : Dict, acc'.1 = Dict.set acc.1 (versionField t) (.obj rec_) ∧ Dict.get? rec_ "file_relpath" = some (.str t)
      ∧ ∃ bs els, composeTable dir t = .ok bs ∧ Dict.get? bs "elements" = some (.obj els)
        ∧ Dict.get? rec_ "elements" = some (.arr ((sortNum (Dict.keys els)).map .str)) := by
  simp only [viStep, throw_eq_error, ite_error_eq_ok, bind_eq_ok, getKey_eq_ok, asObj_eq_ok] at h
  obtain ⟨_, bs, hct, _, hget, els, rfl, ft, _, h⟩ := h
  -- whichever way the function-type check is passed, the same record is written
  split at h
  · simp only [error_bind, ite_error_eq_ok, bind_eq_ok, pure_eq_ok] at h
    obtain ⟨_, rd, _, rv, _, rfl⟩ := h
    exact ⟨_, rfl, by simp, bs, els, hct, hget, by simp⟩
  · simp only [bind_eq_ok, pure_eq_ok] at h
    obtain ⟨rd, _, rv, _, rfl⟩ := h
    exact ⟨_, rfl, by simp, bs, els, hct, hget, by simp⟩

/-- what the index says about one version: it names a table file of that version and lists that table's composed elements -/
def RecordOf (dir : Dir) (S : List String) (ver : String) (r : J) : Prop :=
  ∃ t ∈ S, versionField t = ver ∧ ∃ rec_ : Dict, r = .obj rec_ ∧ Dict.get? rec_ "file_relpath" = some (.str t)
    ∧ ∃ bs els, composeTable dir t = .ok bs ∧ Dict.get? bs "elements" = some (.obj els)
      ∧ Dict.get? rec_ "elements" = some (.arr ((sortNum (Dict.keys els)).map .str))

theorem foldlM_viStep (dir : Dir) (S : List String) (tables : List String) (hS : ∀ t ∈ tables, t ∈ S)
    (acc res : Dict × Option J × Option Dict) (hinv : ∀ ver r, Dict.get? acc.1 ver = some r → RecordOf dir S ver r)
    (h : tables.foldlM (viStep dir) acc = .ok res) :
    (∀ ver r, Dict.get? res.1 ver = some r → RecordOf dir S ver r)
    ∧ (∀ t ∈ tables, (Dict.get? res.1 (versionField t)).isSome = true)
    ∧ (∀ ver, (Dict.get? acc.1 ver).isSome = true → (Dict.get? res.1 ver).isSome = true) := by
  induction tables generalizing acc with
  | nil => cases h; exact ⟨hinv, by simp, fun _ h => h⟩
  | cons t ts ih =>
    simp only [List.foldlM_cons, bind_eq_ok] at h
    obtain ⟨acc1, hstep, h⟩ := h
    obtain ⟨rec_, hset, hfr, bs, els, hct, hel, hre⟩ := viStep_spec dir acc acc1 t hstep
    have hinv1 : ∀ ver r, Dict.get? acc1.1 ver = some r → RecordOf dir S ver r := by
      intro ver r hg
      rw [hset, Dict.get?_set] at hg
      split at hg
      · rename_i hver
        cases hg
        exact ⟨t, hS t (by simp), hver, rec_, rfl, hfr, bs, els, hct, hel, hre⟩
      · exact hinv ver r hg
    obtain ⟨h1, h2, h3⟩ := ih (fun t' ht' => hS t' (by simp [ht'])) acc1 hinv1 h
    refine ⟨h1, fun t' ht' => ?_, fun ver hv => h3 ver (by rw [hset, Dict.get?_set]; split <;> simp [hv])⟩
    rcases List.mem_cons.1 ht' with rfl | ht''
    · exact h3 _ (by simp [hset, Dict.get?_set])
    · exact h2 t' ht''

/-- the bodies of the two nested folds of `createMetadata`, copied out of the model (`createMetadata_eq` ties them back by `rfl`) -/
def addStep (acc : Dict) (e : String × J) : Except PyErr Dict :=
  if Dict.has acc e.1 then .error .runtime else .ok (acc ++ [e])

def metaStep (dir : Dir) (tables : List String) (acc : Dict) (m : String) : Except PyErr Dict := do
  let es ← entriesOf dir tables m
  es.foldlM addStep acc

theorem createMetadata_eq (dir : Dir) (paths : List String) :
    createMetadata dir paths = (do
      let all ← (paths.filter isMeta).foldlM (metaStep dir (paths.filter isTable)) []
      pure (sortDict all)) := rfl

theorem addEntries_spec (es : List (String × J)) (acc acc' : Dict) (h : es.foldlM addStep acc = .ok acc')
    (hn : (Dict.keys acc).Nodup) : acc' = acc ++ es ∧ (Dict.keys acc').Nodup := by
  induction es generalizing acc with
  | nil => cases h; exact ⟨(List.append_nil _).symm, hn⟩
  | cons e rest ih =>
    simp only [List.foldlM_cons, bind_eq_ok, addStep, ite_error_eq_ok, Except.ok.injEq] at h
    obtain ⟨_, ⟨hnew, rfl⟩, h⟩ := h
    have hn1 : (Dict.keys (acc ++ [e])).Nodup := by
      rw [Dict.keys_append]
      exact (List.perm_append_singleton _ _).nodup_iff.2
        (List.nodup_cons.2 ⟨fun hm => hnew ((Dict.has_iff_mem_keys acc e.1).2 hm), hn⟩)
    obtain ⟨rfl, hn'⟩ := ih (acc ++ [e]) h hn1
    exact ⟨by simp, hn'⟩

theorem metaFold_spec (dir : Dir) (tables : List String) (ms : List String) (acc acc' : Dict)
    (h : ms.foldlM (metaStep dir tables) acc = .ok acc') (hn : (Dict.keys acc).Nodup) :
    ∃ ess, mapEx (entriesOf dir tables) ms = .ok ess ∧ acc' = acc ++ ess.flatten ∧ (Dict.keys acc').Nodup := by
  induction ms generalizing acc with
  | nil => cases h; exact ⟨[], rfl, by simp, hn⟩
  | cons m rest ih =>
    simp only [List.foldlM_cons, metaStep, bind_eq_ok] at h
    obtain ⟨acc1, ⟨es, hes, hstep⟩, h⟩ := h
    obtain ⟨rfl, hn1⟩ := addEntries_spec es acc acc1 hstep hn
    obtain ⟨ess, hess, rfl, hn'⟩ := ih _ h hn1
    exact ⟨es :: ess, mapEx_cons_eq_ok.2 ⟨es, ess, hes, hess, rfl⟩, by simp, hn'⟩

end BSE.Index
