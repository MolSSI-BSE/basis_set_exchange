import BSEModel.Canon
import BSEProofs.Props.C04
import BSEGen.Formats
import BSEModel.NwchemInst
import BSEProofs.Lemmas.G94RT
import BSEProofs.Lemmas.G94EcpRT
import BSEModel.TurbomoleInst
import BSEProofs.Lemmas.TurbomoleEcpRT
import BSEProofs.Lemmas.ElementTable
import BSEProofs.Lemmas.NatStr
/-! # C03 — reading back what the library wrote never silently changes the basis

What is proved: (1) the number tables survive print → read token for token (only the exponent marker
may change); (2) for the formats whose read-back must succeed, writer and reader use the same
angular-momentum letter convention, and letters ↔ integers are mutually inverse for every supported l
(C20); (3) the checker used on all write+read formats is sound (C02).  For NWChem, Gaussian94 and
Turbomole the section writers and readers are modelled at token level, over the library's tables: reading
what was written gives the section back; the NWChem and Gaussian94 ECP layouts do not record every momentum,
and there the theorems say what comes back instead (`nwchem_ecp_readback`, `g94_ecp_readback`, `…_gap_limit`).
The sections follow (1)–(3) in this order: (4) NWChem, electron basis (`nwchem_electron_roundtrip`); (5) NWChem, ECP
(`nwchem_ecp_readback`, `nwchem_ecp_faithful_iff`, the two `…_limit`s); (6) Gaussian94, the electron block of one element
(`g94_electron_roundtrip`); (7) Gaussian94, its ECP block, read back iff the momenta are contiguous (`g94_ecp_readback`,
`g94_ecp_faithful`, `g94_ecp_gap_limit`); (8) Turbomole, electron section (`turbomole_electron_roundtrip`); (9) Turbomole,
`$ecp` section (`turbomole_ecp_roundtrip`, `tm_ecp_letter_limit`).
The section parsers of the other eleven formats are validated by the checker of (3) on the explored inputs. -/
namespace BSE.Props.C03
open BSE.Printing BSE.ReadWrite BSE.Gen.Formats

theorem tokensAux_map (f : Char → Char) (hf : ∀ c, f c = ' ' ↔ c = ' ') (s cur : Str) :
    tokensAux (s.map f) (cur.map f) = (tokensAux s cur).map (·.map f) := by
  induction s generalizing cur with
  | nil => by_cases h : cur.isEmpty <;> simp [tokensAux, h, List.map_reverse]
  | cons c cs ih =>
    have h0 := ih []
    have h1 := ih (c :: cur)
    simp only [List.map_nil, List.map_cons] at h0 h1
    by_cases hc : c = ' ' <;> by_cases h : cur.isEmpty <;> simp [tokensAux, hc, h, hf, h0, h1, List.map_reverse]

/-- character maps that never create or destroy a blank commute with tokenisation -/
theorem tokens_map (f : Char → Char) (hf : ∀ c, f c = ' ' ↔ c = ' ') (s : Str) :
    tokens (s.map f) = (tokens s).map (·.map f) := by
  have := tokensAux_map f hf s []
  simpa [tokens] using this

def dToE : Char → Char := fun c => if c = 'D' then 'E' else if c = 'd' then 'e' else c
def eToD : Char → Char := fun c => if c = 'e' ∨ c = 'E' then 'D' else c

theorem dToE_blank (c : Char) : dToE c = ' ' ↔ c = ' ' := by
  unfold dToE
  by_cases h1 : c = 'D'
  · subst h1; decide
  · by_cases h2 : c = 'd'
    · subst h2; decide
    · simp [h1, h2]

theorem eToD_blank (c : Char) : eToD c = ' ' ↔ c = ' ' := by
  unfold eToD
  by_cases h : c = 'e' ∨ c = 'E'
  · rcases h with rfl | rfl <;> decide
  · simp [h]

/-- `helpers.replace_d` and the writers' `e`/`E` → `D` conversion are these two character maps -/
theorem replaceD_eq : replaceD = fun s : Str => s.map dToE := rfl

theorem convExp_true (s : Str) : convExp true s = s.map eToD := by simp [convExp, eToD]

/-- **a printed row is read back as exactly its cells, up to the exponent marker**: the reader's
tokens of `replace_d(line)` are the cells of the row with `D/d` read as `E/e` (and, when the writer
converted, `e/E` written as `D`) — no cell lost, none altered otherwise -/
theorem read_printed_row (cells : List (Nat × Str)) (conv : Bool) (hc : ∀ p ∈ cells, C04.WordOk p.2) :
    tokens (replaceD (convExp conv (rowLine cells [])))
      = cells.map fun p => replaceD (convExp conv p.2) := by
  have hrow := C04.writeMatrix_row_tokens cells hc
  cases conv with
  | false =>
    simp only [convExp, Bool.false_eq_true, if_false]
    rw [replaceD_eq]
    simp only
    rw [tokens_map dToE dToE_blank, hrow, List.map_map]
    rfl
  | true =>
    simp only [convExp_true]
    rw [replaceD_eq]
    simp only
    rw [tokens_map dToE dToE_blank, tokens_map eToD eToD_blank, hrow]
    simp [List.map_map, Function.comp]

/-- reading `D` for `E` changes nothing else: on a number written with `e`/`E` the round trip only
upper-cases the marker -/
theorem marker_roundtrip (c : Char) (h : c ≠ 'd' ∧ c ≠ 'D') : dToE (eToD c) = if c = 'e' then 'E' else c := by
  unfold dToE eToD
  by_cases h1 : c = 'e'
  · subst h1; decide
  · by_cases h2 : c = 'E'
    · subst h2; decide
    · simp [h1, h2, h.1, h.2]

def shellConv (tab : List (String × String × List Bool)) (fmt : String) : Option Bool :=
  (tab.find? (·.1 == fmt)).bind (·.2.2.head?)

/-- gaussian94 and nwchem: the writer's shell letters are decoded with the same convention
(read from the writer and reader modules); turbomole likewise -/
theorem letter_conventions_agree :
    shellConv writers "gaussian94" = some true ∧ shellConv readers "gaussian94" = some true
      ∧ shellConv writers "nwchem" = some false ∧ shellConv readers "nwchem" = some false
      ∧ shellConv writers "turbomole" = some false ∧ shellConv readers "turbomole" = some false := by decide +kernel

/-- gaussian94 uses one convention for all its letters (shells and ECP) -/
theorem g94_uniform : (writers.find? (·.1 == "gaussian94")).map (·.2.2) = some [true, true, true] := rfl

/-- and in either convention letters and integers are mutually inverse for every supported l -/
theorem letters_inverse : ∀ hij : Bool, ∀ l ∈ List.range 25,
    (BSE.Notation.amChar hij l).bind (BSE.Notation.amInt hij) = some l := BSE.Notation.amInt_amChar

/-- the formats that can be both written and read, and their shared extensions (autodetection) -/
theorem write_read_formats :
    ((writers.map (·.1)).filter (fun f => (readers.map (·.1)).contains f))
      = ["nwchem", "gaussian94", "molcas", "molcas_library", "dalton", "cp2k", "demon2k", "gamess_us", "turbomole", "molpro",
         "libmol", "cfour", "crystal", "veloxchem"] := by decide +kernel

theorem readback_checker_sound {ν : Type} (val : ν → Rat) (a b : List (Shell ν)) (h : sameFuncs val a b = true) (f : Func) :
    funcSet val a f ↔ funcSet val b f := sameFuncs_sound val a b h f

/-! Token level (`BSEModel/Nwchem.lean`): a line is a *head* line (first character alphabetic) or a row of number tokens —
the reader's own partition test.  The tables are the library's (`realTables`, regenerated from `lut.py`). -/

open BSE.Nwchem BSE.Notation in
/-- the element symbols the writer prints are read back to the same Z, and are alphabetic, for every Z of the table -/
theorem nwchem_symbols_roundtrip {ν : Type} (isNum : ν → Bool) :
    ∀ z ∈ List.range' 1 118, (realTables isNum).zOf ((realTables isNum).symOf z) = some z
      ∧ isAlphaStr ((realTables isNum).symOf z) = true := by
  intro z hz
  show zFromSym ((symFromZNorm z).getD []) = some z ∧ isAlphaStr ((symFromZNorm z).getD []) = true
  obtain ⟨s, h⟩ := symbol_spellings hz
  rw [symFromZNorm, h.sym, Option.map_some, Option.getD_some, isAlphaStr, h.capAlpha]
  cases s with
  | nil => exact absurd rfl h.ne
  | cons c cs => exact ⟨h.cap, rfl⟩

open BSE.Nwchem BSE.Notation in
/-- the momentum letters the writer prints (upper case, hik) are read back to the same momenta, for every momentum
list with `l < 25` — fused shells included -/
theorem nwchem_am_roundtrip {ν : Type} (isNum : ν → Bool) (am : List Nat) (hne : am ≠ []) (hl : ∀ l ∈ am, l < 25) :
    (realTables isNum).amOf ((realTables isNum).amStr am) = some am
      ∧ isAlphaStr ((realTables isNum).amStr am) = true :=
  am_letters_roundtrip (amChar false) (amInt false) Char.toUpper amOfReal rfl (fun _ _ => rfl) am hne fun l h =>
    have ⟨c, h1, _, h3, _, h5⟩ := letter_table false l (List.mem_range.2 (hl l h))
    ⟨c, h1, h3, h5⟩

open BSE.Nwchem in
/-- **NWChem, electron section: read(write(elements)) = elements** — every element in order, every shell in order,
momenta / exponents / coefficient columns token for token, function type recomputed from the momenta; for every list
of elements with distinct Z in 1..118, non-empty shell lists and rectangular shells of number tokens with `l < 25` -/
theorem nwchem_electron_roundtrip {ν : Type} (isNum : ν → Bool) (harm : List Char) (els : List (Nat × List (EShell ν)))
    (hharm : harm = "SPHERICAL".toList ∨ harm = "CARTESIAN".toList)
    (hnd : (els.map (·.1)).Nodup) (hne : ∀ e ∈ els, e.2 ≠ [])
    (hz : ∀ e ∈ els, e.1 ∈ List.range' 1 118)
    (hsh : ∀ e ∈ els, ∀ sh ∈ e.2, 0 < sh.exps.length ∧ sh.coefs ≠ [] ∧ Rect sh.exps.length sh.coefs
        ∧ (∀ x ∈ sh.exps, isNum x = true) ∧ (∀ c ∈ sh.coefs, ∀ x ∈ c, isNum x = true)
        ∧ sh.am ≠ [] ∧ (∀ l ∈ sh.am, l < 25) ∧ (sh.am.length > 1 → sh.coefs.length = sh.am.length)) :
    readElectron (realTables isNum) (electronLines (realTables isNum) harm els)
      = .ok (els.map fun e => (e.1, e.2.map (toR (realTables isNum) (harm == "SPHERICAL".toList)))) := by
  apply readElectron_write (realTables isNum) harm els hharm hnd hne
  · intro e he; exact nwchem_symbols_roundtrip isNum e.1 (hz e he)
  · intro e he sh hs
    obtain ⟨h1, h2, h3, h4, h5, h6, h7, h8⟩ := hsh e he sh hs
    exact ⟨h1, h2, h3, ⟨h4, h5⟩, nwchem_am_roundtrip isNum sh.am h6 h7, h8⟩

open BSE.Nwchem in
/-- **NWChem ECP section: read(write(els))**, over the library's tables.  Every element, electron count and potential
comes back in write order with its terms token for token; every potential but the first keeps its momentum; the first
(the highest, written as `ul`) gets `ulAm` = (highest other momentum) + 1, because the text does not record it. -/
theorem nwchem_ecp_readback {ν : Type} (isNum isInt : ν → Bool) (els : List (Nat × List Char × List (EPot ν)))
    (hnd : (els.map (·.1)).Nodup)
    (hok : ∀ e ∈ els, ElOK (realEcpTables isNum isInt) e) (hs : ∀ e ∈ els, ElShape e) :
    readEcp (realEcpTables isNum isInt) (ecpLines (realEcpTables isNum isInt) els) = .ok (els.map readEl) :=
  readEcp_write (realEcpTables isNum isInt) els hnd hok hs

open BSE.Nwchem BSE.Notation in
/-- the premises `ElOK` of `nwchem_ecp_readback` hold over the library's tables for every element 1..118 whose potentials
have typed, non-empty term lists and momenta below 25 -/
theorem nwchem_ecp_premises {ν : Type} (isNum isInt : ν → Bool) (e : Nat × List Char × List (EPot ν))
    (hz : e.1 ∈ List.range' 1 118) (hn : (!e.2.1.isEmpty && e.2.1.all Char.isDigit) = true)
    (hp : ∀ p ∈ writeOrder e.2.2, p.terms ≠ [] ∧ p.am < 25
      ∧ ∀ t ∈ p.terms, isInt t.1 = true ∧ isNum t.2.1 = true ∧ isNum t.2.2 = true) :
    ElOK (realEcpTables isNum isInt) e := by
  have hlow : (realEcpTables isNum isInt).zOf (lower ((realEcpTables isNum isInt).symOf e.1)) = some e.1 := by
    obtain ⟨s, h⟩ := symbol_spellings hz
    simp only [realEcpTables, realTables]
    rw [symFromZNorm, h.sym]; exact h.lower
  -- one letter is not the two letters `ul`
  have hul : ∀ l, (lower (([l].filterMap (amChar false)).map Char.toUpper) == "ul".toList) = false := fun l => by
    cases h : amChar false l <;> simp [h, lower]
  refine ⟨nwchem_symbols_roundtrip isNum e.1 hz, hlow, hn, ?_⟩
  intro p hpw
  obtain ⟨h1, h2, h3⟩ := hp p hpw
  have ham := nwchem_am_roundtrip isNum [p.am] (List.cons_ne_nil _ _) fun l hl => List.mem_singleton.1 hl ▸ h2
  exact ⟨h1, h3, ham.1, ham.2, hul p.am⟩

open BSE.Nwchem in
/-- the shape premise of `nwchem_ecp_readback` follows from the natural one: at least two potentials, momenta pairwise
different — the writer's order then is "highest first, the others ascending" -/
theorem nwchem_ecp_shape {ν : Type} (e : Nat × List Char × List (EPot ν))
    (hn : (e.2.2.map (·.am)).Nodup) (h2 : 2 ≤ e.2.2.length) : ElShape e := by
  obtain ⟨top, rest, h1, h2', h3, h4⟩ := writeOrder_distinct e.2.2 hn (fun h0 => by rw [h0] at h2; simp at h2)
  exact ⟨top, rest, h1, h2', fun h0 => by rw [h0] at h3; simp at h3; omega, h4⟩

open BSE.Nwchem in
/-- **the ECP round trip is faithful exactly when the highest momentum is one above the next** -/
theorem nwchem_ecp_faithful_iff {ν : Type} (e : Nat × List Char × List (EPot ν)) (top : EPot ν) (rest : List (EPot ν))
    (hw : writeOrder e.2.2 = top :: rest) :
    readEl e = (e.1, e.2.1, (top :: rest).map readPot) ↔ top.am = ulAm rest := by
  simp only [readEl, hw, List.map_cons, readPot]
  constructor
  · intro h
    have := congrArg (fun x => x.2.2.head?.bind (·.am)) h
    simpa using this.symm
  · intro h
    rw [h]

/-- a copper ECP with potentials for l = 0 and l = 2 only (the validator accepts it) -/
def gapEcp : List (Nat × List Char × List (BSE.Nwchem.EPot String)) :=
  [(29, "10".toList, [{ am := 0, terms := [("2", "1.5", "3.0")] }, { am := 2, terms := [("1", "0.7", "-1.0")] }])]

def allTok : String → Bool := fun _ => true

open BSE.Nwchem in
/-- **limit of the format, proved on the model and replayed on the library (finding F14):** the l = 2 potential of
`gapEcp` is written as `ul` and read back as l = 1 — silently altered -/
theorem nwchem_ecp_gap_limit :
    (readEcp (realEcpTables allTok allTok) (ecpLines (realEcpTables allTok allTok) gapEcp)).toOption
      = some [(29, "10".toList, [{ am := some [1], rexp := ["1"], gexp := ["0.7"], coef := ["-1.0"] },
                                  { am := some [0], rexp := ["2"], gexp := ["1.5"], coef := ["3.0"] }])] := by
  decide +kernel

open BSE.Nwchem in
/-- … and a lone local potential cannot be read at all (`max()` of nothing) -/
theorem nwchem_ecp_single_limit :
    (readEcp (realEcpTables allTok allTok) (ecpLines (realEcpTables allTok allTok)
      [(29, "10".toList, [{ am := 2, terms := [("1", "0.7", "-1.0")] }])])).toOption = none := by
  decide +kernel

open BSE.Nwchem in
/-- a contiguous copper ECP (l = 0, 1, 2) comes back with its own momenta, in the writer's order (highest first) -/
example :
    (readEcp (realEcpTables allTok allTok) (ecpLines (realEcpTables allTok allTok)
      [(29, "10".toList, [{ am := 1, terms := [("2", "1.1", "2.0")] }, { am := 0, terms := [("2", "1.5", "3.0")] },
                          { am := 2, terms := [("1", "0.7", "-1.0")] }])])).toOption
      = some [(29, "10".toList, [{ am := some [2], rexp := ["1"], gexp := ["0.7"], coef := ["-1.0"] },
                                  { am := some [0], rexp := ["2"], gexp := ["1.5"], coef := ["3.0"] },
                                  { am := some [1], rexp := ["2"], gexp := ["1.1"], coef := ["2.0"] }])] := by
  decide +kernel

open BSE.G94 BSE.Notation

open BSE.Nwchem in
/-- the hij letters the Gaussian writer prints are read back to the same momenta (fused shells included) -/
theorem g94_am_roundtrip {ν : Type} (isNum : ν → Bool) (am : List Nat) (hne : am ≠ []) (hl : ∀ l ∈ am, l < 26) :
    (realGTables isNum).amOf ((realGTables isNum).amStr am) = some am
      ∧ isAlphaStr ((realGTables isNum).amStr am) = true :=
  am_letters_roundtrip (amChar true) (amInt true) Char.toUpper amOfHij rfl (fun _ _ => rfl) am hne fun l h =>
    have ⟨c, h1, _, h3, _, h5⟩ := letter_table true l (List.mem_range.2 (hl l h))
    ⟨c, h1, h3, h5⟩

/-- the primitive count printed on a shell line parses back, for every shell with fewer than 400 primitives -/
theorem g94_count_roundtrip : ∀ n ∈ List.range 400, natOfStr (toString n).toList = some n :=
  fun n _ => natOfStr_toString n

theorem g94_scale_ok {ν : Type} (isNum : ν → Bool) : ScaleOK (realGTables isNum) := by
  have h1 : BSE.ReadWrite.isFloatTok "1.00".toList = true := by decide +kernel
  have h2 : ((BSE.parseNumChars true "1.00".toList).getD 1 == 0) = false := by decide +kernel
  have h3 : ((BSE.parseNumChars true "1.00".toList).getD 0 * (BSE.parseNumChars true "1.00".toList).getD 0 == 1) = true := by
    decide +kernel
  exact ⟨h1, h2, h3⟩

open BSE.Nwchem in
/-- **Gaussian94, one element's electron block: read(write(shells)) = shells**, over the library's tables: every shell in
order, momenta / exponents / coefficient columns token for token, for every element 1..118 and every list of rectangular
shells of number tokens with `l < 26`, as many contractions as fused momenta, fewer than 400 primitives -/
theorem g94_electron_roundtrip {ν : Type} (isNum : ν → Bool) (z : Nat) (shells : List (EShell ν))
    (hz : z ∈ List.range' 1 118)
    (hsh : ∀ sh ∈ shells, 0 < sh.exps.length ∧ sh.exps.length < 400 ∧ sh.coefs ≠ [] ∧ Rect sh.exps.length sh.coefs
        ∧ (∀ x ∈ sh.exps, isNum x = true) ∧ (∀ c ∈ sh.coefs, ∀ x ∈ c, isNum x = true)
        ∧ sh.am ≠ [] ∧ (∀ l ∈ sh.am, l < 26) ∧ sh.coefs.length = sh.am.length) :
    parseElectron (realGTables isNum) (electronBlock (realGTables isNum) z shells)
      = .ok (z, shells.map (toR (realGTables isNum).toTables true)) := by
  apply parseElectron_write (realGTables isNum) (g94_scale_ok isNum) z shells (nwchem_symbols_roundtrip isNum z hz).1
  intro sh hs
  obtain ⟨h1, h1', h2, h3, h4, h5, h6, h7, h8⟩ := hsh sh hs
  have ham := g94_am_roundtrip isNum sh.am h6 h7
  -- `simp only [real…Tables]` first, here and below: `exact` across the record projections makes `isDefEq` unfold
  -- the tables (thousands of heartbeats)
  exact ⟨⟨h1, h2, h3, ⟨h4, h5⟩, ham, fun _ => h8⟩, h8, by simp only [realGTables]; exact natOfStr_toString _⟩

def allTokS : String → Bool := fun _ => true

/-- copper, potentials l = 0, 1, 2 (contiguous) -/
def cuFull : List (BSE.Nwchem.EPot String) :=
  [{ am := 1, terms := [("2", "1.1", "2.0")] }, { am := 0, terms := [("2", "1.5", "3.0"), ("1", "0.5", "1.0")] }, { am := 2, terms := [("1", "0.7", "-1.0")] }]

/-- copper, potentials l = 0 and l = 2 only -/
def cuGap : List (BSE.Nwchem.EPot String) :=
  [{ am := 0, terms := [("2", "1.5", "3.0")] }, { am := 2, terms := [("1", "0.7", "-1.0")] }]

/-- **Gaussian94 ECP block: read(write(pots))**, over the library's tables: with `L` the highest momentum, the block is
read back iff there are exactly `L + 1` potentials, and then the momenta are assigned by position -/
theorem g94_ecp_readback (isNum isInt : String → Bool) (z : Nat) (nelec : String) (pots : List (BSE.Nwchem.EPot String))
    (ok : BlockOK (realETables isNum isInt) z nelec pots) (hne : BSE.Nwchem.writeOrder pots ≠ []) :
    parseEcpBlock (realETables isNum isInt) (ecpBlock (realETables isNum isInt) z nelec pots)
      = if (BSE.Nwchem.writeOrder pots).length = (pots.map (·.am)).foldl max 0 + 1
        then .ok (z, nelec, numbered ((pots.map (·.am)).foldl max 0) (BSE.Nwchem.writeOrder pots))
        else .error .runtime :=
  parseEcpBlock_write (realETables isNum isInt) z nelec pots ok hne

/-- the premises `BlockOK` hold over the library's tables for every element 1..118, highest momentum and term counts below
400, a numeric electron count and typed, non-empty term lists -/
theorem g94_ecp_premises (isNum isInt : String → Bool) (z : Nat) (nelec : String) (pots : List (BSE.Nwchem.EPot String))
    (hz : z ∈ List.range' 1 118) (hL : (pots.map (·.am)).foldl max 0 < 400)
    (hn : (natOfStr nelec.toList).isSome = true)
    (hp : ∀ p ∈ BSE.Nwchem.writeOrder pots, p.terms ≠ [] ∧ p.terms.length < 400
      ∧ ∀ t ∈ p.terms, isInt t.1 = true ∧ isNum t.2.1 = true ∧ isNum t.2.2 = true) :
    BlockOK (realETables isNum isInt) z nelec pots := by
  refine ⟨?_, by simp only [realETables]; exact natOfStr_toString _, hn, ?_⟩
  · obtain ⟨s, h⟩ := symbol_spellings hz
    simp only [realETables]
    rw [h.sym, Option.getD_some, String.toList_ofList]; exact h.upper
  · intro p hpw
    obtain ⟨h1, _, h3⟩ := hp p hpw
    exact ⟨h1, h3, by simp only [realETables]; exact intOfStr_toString _⟩

/-- … and then they are the potentials' own momenta exactly when these are `L, 0, 1, …, L-1` in write order -/
theorem g94_ecp_faithful (L : Nat) (top : BSE.Nwchem.EPot String) (rest : List (BSE.Nwchem.EPot String)) (htop : top.am = L)
    (hrest : rest.map (·.am) = List.range L) :
    numbered L (top :: rest) = (top :: rest).map BSE.Nwchem.readPot :=
  numbered_faithful L top rest htop hrest

/-- the contiguous copper ECP is read back with its own momenta -/
example : (parseEcpBlock (realETables allTokS allTokS) (ecpBlock (realETables allTokS allTokS) 29 "10" cuFull)).toOption
    = some (29, "10", [{ am := some [2], rexp := ["1"], gexp := ["0.7"], coef := ["-1.0"] },
                        { am := some [0], rexp := ["2", "1"], gexp := ["1.5", "0.5"], coef := ["3.0", "1.0"] },
                        { am := some [1], rexp := ["2"], gexp := ["1.1"], coef := ["2.0"] }]) := by
  decide +kernel

/-- **limit of the format, proved on the model and replayed on the library (finding F14-g94):** the Gaussian94 reader
refuses the block the writer produced for potentials l = 0, 2 -/
theorem g94_ecp_gap_limit :
    (parseEcpBlock (realETables allTokS allTokS) (ecpBlock (realETables allTokS allTokS) 29 "10" cuGap)).toOption = none := by
  decide +kernel

/-- the Turbomole writers print the symbol as it stands in the table -/
theorem tm_symbol {z : Nat} (hz : z ∈ List.range' 1 118) : zFromSym ((symFromZ z).getD []) = some z := by
  obtain ⟨s, h⟩ := symbol_spellings hz
  rw [h.sym]; exact h.plain

open BSE.Turbomole in
/-- **Turbomole, electron section: read(write(elements)) = elements**, over the library's tables: every element 1..118
(distinct), at least one shell each, shells with one momentum `l < 25`, one contraction, fewer than 400 primitives -/
theorem turbomole_electron_roundtrip {ν : Type} (isNum isInt : ν → Bool) (name : List Char) (els : List (Nat × List (BSE.Nwchem.EShell ν)))
    (hne : els ≠ []) (hnd : (els.map (·.1)).Nodup) (hz : ∀ e ∈ els, e.1 ∈ List.range' 1 118) (hsn : ∀ e ∈ els, e.2 ≠ [])
    (hsh : ∀ e ∈ els, ∀ sh ∈ e.2, 0 < sh.exps.length ∧ sh.exps.length < 400 ∧ sh.coefs.length = 1 ∧ Rect sh.exps.length sh.coefs
        ∧ (∀ x ∈ sh.exps, isNum x = true) ∧ (∀ c ∈ sh.coefs, ∀ x ∈ c, isNum x = true)
        ∧ (∃ l, sh.am = [l] ∧ l < 25)) :
    readElectronT (realTTables isNum isInt) (electronLinesT (realTTables isNum isInt) name els)
      = .ok (els.map fun e => (e.1, e.2.map (BSE.Nwchem.toR (realTTables isNum isInt).toTables true))) := by
  apply readElectronT_write (realTTables isNum isInt) name els hne hnd
  intro e he
  refine ⟨by simp only [realTTables]; exact tm_symbol (hz e he), hsn e he, ?_⟩
  intro sh hs
  obtain ⟨h1, h1', h2, h3, h4, h5, l, hl, hl25⟩ := hsh e he sh hs
  have hcne : sh.coefs ≠ [] := by intro h0; rw [h0] at h2; simp at h2
  obtain ⟨c, hc, hci, _, hca, _⟩ := letter_table false l (List.mem_range.2 hl25)
  have ham : amOfHik (sh.am.filterMap (amChar false)) = some sh.am
      ∧ BSE.Nwchem.isAlphaStr (sh.am.filterMap (amChar false)) = true := by
    simp [hl, hc, amOfHik, hci, BSE.Nwchem.isAlphaStr, hca]
  exact ⟨⟨h1, hcne, h3, ⟨h4, h5⟩, ham, fun hgt => by rw [hl] at hgt; simp at hgt⟩, h2,
    by simp only [realTTables]; exact natOfStr_toString _⟩

def tmDemo : List (Nat × List (BSE.Nwchem.EShell String)) :=
  [(1, [{ am := [0], exps := ["3.0", "1.0"], coefs := [["0.1", "0.9"]] }]),
   (6, [{ am := [0], exps := ["2.0"], coefs := [["1.0"]] }, { am := [2], exps := ["0.8"], coefs := [["1.0"]] }])]

open BSE.Turbomole in
example : (readElectronT (realTTables (fun _ => true) (fun _ => true)) (electronLinesT (realTTables (fun _ => true) (fun _ => true)) "X".toList tmDemo)).toOption
    = some [(1, [{ ftype := "gto".toList, am := [0], exps := ["3.0", "1.0"], coefs := [["0.1", "0.9"]] }]),
            (6, [{ ftype := "gto".toList, am := [0], exps := ["2.0"], coefs := [["1.0"]] },
                 { ftype := "gto_spherical".toList, am := [2], exps := ["0.8"], coefs := [["1.0"]] }])] := by
  decide +kernel

example : tokens (replaceD (convExp true (rowLine [(7, "1.5e+01".toList), (20, "-2.0E-01".toList)] [])))
    = ["1.5E+01".toList, "-2.0E-01".toList] := by decide +kernel
example : isFloatTok "1.5E+01".toList = true ∧ isFloatTok "15".toList = false ∧ isFloatTok "-.5D-3".toList = true := by decide +kernel

/-- hydrogen with an s shell of two contractions and carbon with a fused sp shell -/
def demoEls : List (Nat × List (BSE.Nwchem.EShell String)) :=
  [(1, [{ am := [0], exps := ["3.0", "1.0"], coefs := [["0.1", "0.9"], ["0.0", "1.0"]] }]),
   (6, [{ am := [0, 1], exps := ["2.0"], coefs := [["1.0"], ["1.0"]] }, { am := [2], exps := ["0.8"], coefs := [["1.0"]] }])]

open BSE.Nwchem in
example :
    (readElectron (realTables (fun _ => true)) (electronLines (realTables (fun _ => true)) "SPHERICAL".toList demoEls)).toOption
      = some [(1, [{ ftype := "gto".toList, am := [0], exps := ["3.0", "1.0"], coefs := [["0.1", "0.9"], ["0.0", "1.0"]] }]),
              (6, [{ ftype := "gto".toList, am := [0, 1], exps := ["2.0"], coefs := [["1.0"], ["1.0"]] },
                   { ftype := "gto_spherical".toList, am := [2], exps := ["0.8"], coefs := [["1.0"]] }])] := by
  decide +kernel

open BSE.Turbomole in
/-- the letter the Turbomole writer prints for an ECP momentum (hij table) is read back (hik table) as that momentum up to l = 6 -/
theorem tm_ecp_letter : ∀ l ∈ List.range 7, amOfHik ([l].filterMap (amChar true)) = some [l] := by decide +kernel

open BSE.Turbomole in
/-- **limit of the pair, proved on the model**: from l = 7 on the two tables differ — `j` (l = 7) is unknown to the reader, and
`k` (l = 8 for the writer) is read as l = 7.  No ECP of the store goes beyond l = 5. -/
theorem tm_ecp_letter_limit :
    amOfHik ([7].filterMap (amChar true)) = none ∧ amOfHik ([8].filterMap (amChar true)) = some [7] := by decide +kernel

open BSE.Turbomole BSE.Nwchem in
/-- **Turbomole, `$ecp` section: read(write(potentials)) = potentials**, over the library's tables: every element 1..118
(distinct), electron counts and term counts below 400, potentials with pairwise different momenta `l ≤ 6` and at least one term
each; what comes back is every element in order with its electron count and every potential, in write order (highest momentum
first), with its own momentum and its terms token for token.  A gap in the momenta (l = 0, 2) or a lone local potential are
fine here: this format writes the letter of every potential. -/
theorem turbomole_ecp_roundtrip {ν : Type} (isNum isInt : ν → Bool) (name : List Char) (count : Nat × List Char × List (EPot ν) → Nat)
    (els : List (Nat × List Char × List (EPot ν)))
    (hne : els ≠ []) (hnd : (els.map (·.1)).Nodup) (hz : ∀ e ∈ els, e.1 ∈ List.range' 1 118)
    (hcount : ∀ e ∈ els, BSE.G94.natOfStr e.2.1 = some (count e))
    (ham : ∀ e ∈ els, (e.2.2.map (·.am)).Nodup ∧ ∀ p ∈ e.2.2, p.am < 7)
    (hterms : ∀ e ∈ els, ∀ p ∈ e.2.2, p.terms ≠ [] ∧ ∀ t ∈ p.terms, isInt t.1 = true ∧ isNum t.2.1 = true ∧ isNum t.2.2 = true) :
    readEcpP (realPTables isNum isInt) (ecpLinesP (realPTables isNum isInt) name els)
      = .ok (els.map fun e => (e.1, count e, (writeOrder e.2.2).map readPotP)) := by
  apply readEcpP_write (realPTables isNum isInt) name count els hne hnd
  intro e he
  have hmax : maxAmOf e.2.2 < 7 :=
    Nat.lt_succ_of_le ((foldl_max_le_iff _ 0 6).2 ⟨Nat.zero_le _, fun x hx => by
      obtain ⟨p, hp, rfl⟩ := List.mem_map.1 hx
      exact Nat.le_of_lt_succ ((ham e he).2 p hp)⟩)
  refine { sym := ?_, nelec := hcount e he, lmax_rt := ?_, lmax_letter := tm_ecp_letter _ (List.mem_range.2 hmax),
           pots := fun p hp => ?_, distinct := (ham e he).1 }
  · simp only [realPTables]
    exact tm_symbol (hz e he)
  · simp only [realPTables]
    exact natOfStr_toString _
  · obtain ⟨hterm, htok⟩ := hterms e he p hp
    exact { terms_ne := hterm, r_int := fun t ht => (htok t ht).1, g_num := fun t ht => (htok t ht).2.1,
            c_num := fun t ht => (htok t ht).2.2, letter := tm_ecp_letter _ (List.mem_range.2 ((ham e he).2 p hp)) }

/-- copper with potentials l = 0, 2 (a gap) comes back with its own momenta, highest first -/
example : (BSE.Turbomole.readEcpP (BSE.Turbomole.realPTables (fun (_ : String) => true) (fun _ => true))
      (BSE.Turbomole.ecpLinesP (BSE.Turbomole.realPTables (fun _ => true) (fun _ => true)) "X-ecp".toList [(29, "10".toList, cuGap)])).toOption
    = some [(29, 10, [{ am := some [2], rexp := ["1"], gexp := ["0.7"], coef := ["-1.0"] },
                       { am := some [0], rexp := ["2"], gexp := ["1.5"], coef := ["3.0"] }])] := by
  decide +kernel

end BSE.Props.C03
