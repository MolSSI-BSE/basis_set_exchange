/-! Python `zip(*m)` on lists of lists: the transpose in closed form (`zipStar_closed`), its shape and its columns.  The few list
facts these proofs and their users share (`filterMap` over a range, `foldl max`) stand first. -/
namespace BSE
variable {α : Type}

/-- `list(map(list, zip(*m)))` : rows of the transposed matrix, truncated to the shortest column;
    `[]` when there is no column. Fuel = an upper bound on the number of rows. -/
def zipStarAux : Nat → List (List α) → List (List α)
  | 0, _ => []
  | fuel+1, m =>
    if m = [] ∨ m.any List.isEmpty then [] else
      m.filterMap List.head? :: zipStarAux fuel (m.map List.tail)

def zipStar (m : List (List α)) : List (List α) :=
  zipStarAux ((m.head?.map List.length).getD 0) m

/-- every column has length `n` -/
def Rect (n : Nat) (m : List (List α)) : Prop := ∀ c ∈ m, c.length = n

theorem filterMap_congr_mem {β : Type} (f g : α → Option β) (l : List α) (h : ∀ x ∈ l, f x = g x) :
    l.filterMap f = l.filterMap g := by
  induction l with
  | nil => rfl
  | cons a as ih =>
    simp only [List.filterMap_cons, h a (by simp), ih (fun x hx => h x (by simp [hx]))]

theorem filterMap_getElem?_get (i k : Nat) (m : List (List α)) (h : ∀ c ∈ m, i < c.length) :
    (m.filterMap (·[i]?))[k]? = (m[k]?).bind (·[i]?) := by
  induction m generalizing k with
  | nil => simp
  | cons a as ih =>
    rw [List.filterMap_cons, List.getElem?_eq_getElem (h a (by simp))]
    cases k with
    | zero => exact (List.getElem?_eq_getElem (h a (by simp))).symm
    | succ k => exact ih k fun c hc => h c (by simp [hc])

theorem filterMap_range_getElem? (xs : List α) : (List.range xs.length).filterMap (xs[·]?) = xs := by
  induction xs with
  | nil => rfl
  | cons a xs ih =>
    rw [List.length_cons, List.range_succ_eq_map, List.filterMap_cons, List.filterMap_map]
    simpa [Function.comp_def] using ih

theorem foldl_max_le_iff (l : List Nat) (a m : Nat) : l.foldl max a ≤ m ↔ a ≤ m ∧ ∀ x ∈ l, x ≤ m := by
  induction l generalizing a with
  | nil => simp
  | cons x xs ih => simp [ih, Nat.max_le, and_assoc]

theorem foldl_max_le_of_subset (l l' : List Nat) (h : ∀ a ∈ l, a ∈ l') : l.foldl max 0 ≤ l'.foldl max 0 :=
  (foldl_max_le_iff l 0 _).2 ⟨Nat.zero_le _, fun a ha => ((foldl_max_le_iff l' 0 _).1 (Nat.le_refl _)).2 a (h a ha)⟩

theorem rect_nonempty_cols {n : Nat} {m : List (List α)} (h : Rect (n+1) m) :
    ¬ (m.any List.isEmpty = true) := by
  intro hc
  obtain ⟨c, hc, he⟩ := List.any_eq_true.1 hc
  have := h c hc
  cases c with
  | nil => simp at this
  | cons _ _ => simp at he

theorem Rect.tail {n : Nat} {m : List (List α)} (h : Rect (n+1) m) : Rect n (m.map List.tail) := by
  intro c hc
  obtain ⟨c', hc', rfl⟩ := List.mem_map.1 hc
  simp [h c' hc']

/-- closed form of the transpose of a rectangular matrix: the one induction on the fuel -/
theorem zipStarAux_closed {n : Nat} {m : List (List α)} (hm : m ≠ []) (h : Rect n m) :
    zipStarAux n m = (List.range n).map (fun i => m.filterMap (·[i]?)) := by
  induction n generalizing m with
  | zero => rfl
  | succ k ih =>
    rw [zipStarAux, if_neg (not_or.2 ⟨hm, rect_nonempty_cols h⟩), ih (by simpa using hm) h.tail,
      List.range_succ_eq_map, List.map_cons, List.map_map]
    congr 1
    · exact filterMap_congr_mem _ _ m fun c _ => by cases c <;> rfl
    · apply List.map_congr_left
      intro i _
      rw [Function.comp, List.filterMap_map]
      exact filterMap_congr_mem _ _ m fun c _ => by cases c <;> simp

theorem zipStar_eq_aux {n : Nat} {m : List (List α)} (hm : m ≠ []) (h : Rect n m) : zipStar m = zipStarAux n m := by
  cases m with
  | nil => exact absurd rfl hm
  | cons c cs => simp [zipStar, h c (by simp)]

theorem zipStar_closed {n : Nat} {m : List (List α)} (hm : m ≠ []) (h : Rect n m) :
    zipStar m = (List.range n).map (fun i => m.filterMap (·[i]?)) :=
  (zipStar_eq_aux hm h).trans (zipStarAux_closed hm h)

theorem zipStarAux_length {n : Nat} {m : List (List α)} (hm : m ≠ []) (h : Rect n m) :
    (zipStarAux n m).length = n := by
  simp [zipStarAux_closed hm h]

/-- entry (i,j) of the transpose is entry (j,i) -/
theorem zipStarAux_get {n : Nat} {m : List (List α)} (hm : m ≠ []) (h : Rect n m)
    (i : Nat) (hi : i < n) (j : Nat) (hj : j < m.length) :
    ((zipStarAux n m)[i]?.bind (·[j]?)) = (m[j]?.bind (·[i]?)) := by
  rw [zipStarAux_closed hm h, List.getElem?_map, List.getElem?_range hi]
  exact filterMap_getElem?_get i j m fun c hc => h c hc ▸ hi

theorem zipStar_shape {m : Nat} {rows : List (List α)} (hne : rows ≠ []) (hr : Rect m rows) :
    (zipStar rows).length = m ∧ Rect rows.length (zipStar rows) := by
  rw [zipStar_closed hne hr]
  refine ⟨by simp, fun c hc => ?_⟩
  obtain ⟨i, hi, rfl⟩ := List.mem_map.1 hc
  exact List.filterMap_length_eq_length.2 fun c hc => by simpa [hr c hc] using hi

theorem zipStar_col {m : Nat} {rows : List (List α)} (hne : rows ≠ []) (hr : Rect m rows) (k : Nat) (hk : k < rows.length) :
    (zipStar rows).filterMap (·[k]?) = rows[k] := by
  rw [zipStar_closed hne hr, List.filterMap_map]
  have := filterMap_range_getElem? rows[k]
  rw [hr _ (List.getElem_mem hk)] at this
  rw [← this]
  apply filterMap_congr_mem
  intro i hi
  rw [Function.comp, filterMap_getElem?_get i k rows fun c hc => hr c hc ▸ List.mem_range.1 hi,
    List.getElem?_eq_getElem hk]
  rfl

theorem zipStar_involutive {m : Nat} {rows : List (List α)} (hne : rows ≠ []) (hr : Rect m rows) (hm : 0 < m) :
    zipStar (zipStar rows) = rows := by
  obtain ⟨hlen, hrect⟩ := zipStar_shape hne hr
  rw [zipStar_closed (fun h => by simp [h] at hlen; omega) hrect]
  apply List.ext_getElem (by simp)
  intro k hk _
  rw [List.getElem_map, List.getElem_range, zipStar_col hne hr k (by simpa using hk)]

theorem zipStar_step (rows : List (List α)) (hne : rows ≠ []) (h : ∀ r ∈ rows, r ≠ []) :
    zipStar rows = rows.filterMap List.head? :: zipStar (rows.map List.tail) := by
  have hany : rows.any List.isEmpty = false := List.any_eq_false.2 fun r hr => by simpa using h r hr
  obtain ⟨r, rs, rfl⟩ := List.exists_cons_of_ne_nil hne
  obtain ⟨a, t, rfl⟩ := List.exists_cons_of_ne_nil (h r List.mem_cons_self)
  simp [zipStar, zipStarAux, hany]

theorem row_mem_zipStar (exps : List α) (coefs : List (List α)) (hr : Rect exps.length coefs) (i : Nat)
    (hi : i < exps.length) : (exps[i] :: coefs.filterMap (·[i]?)) ∈ zipStar (exps :: coefs) := by
  rw [zipStar_closed (m := exps :: coefs) (by simp) (List.forall_mem_cons.2 ⟨rfl, hr⟩)]
  exact List.mem_map.2 ⟨i, List.mem_range.2 hi, by simp [List.getElem?_eq_getElem hi]⟩

theorem mem_of_mem_zipStar {n : Nat} {m : List (List α)} (hne : m ≠ []) (hm : Rect n m) {r : List α} {x : α}
    (hr : r ∈ zipStar m) (hx : x ∈ r) : ∃ c ∈ m, x ∈ c := by
  rw [zipStar_closed hne hm] at hr
  obtain ⟨i, _, rfl⟩ := List.mem_map.1 hr
  obtain ⟨c, hc, hcx⟩ := List.mem_filterMap.1 hx
  exact ⟨c, hc, List.mem_of_getElem? hcx⟩

end BSE
