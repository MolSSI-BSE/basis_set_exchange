import BSEModel.RefRender

/-! # Every stored field value of a reference occurs in its renderings

`Sub x s`: `x` is a contiguous piece of `s`.  Every string of a field's value occurs in the field's BibTeX line (`sub_bibLine`)
and in the RIS / EndNote text of the entry (`writeTagged_complete`), provided `authors` and `editors` hold lists (`WellTyped`):
a string there is rendered character by character. -/

namespace BSE.RefRender

def Sub (x s : Str) : Prop := ∃ pre post, s = pre ++ x ++ post

theorem Sub.refl (x : Str) : Sub x x := ⟨[], [], by simp⟩
theorem Sub.left {x s : Str} (a : Str) (h : Sub x s) : Sub x (a ++ s) := by
  obtain ⟨p, q, rfl⟩ := h; exact ⟨a ++ p, q, by simp⟩
theorem Sub.right {x s : Str} (b : Str) (h : Sub x s) : Sub x (s ++ b) := by
  obtain ⟨p, q, rfl⟩ := h; exact ⟨p, q ++ b, by simp⟩
theorem Sub.trans {x y s : Str} (h1 : Sub x y) (h2 : Sub y s) : Sub x s := by
  obtain ⟨p, q, rfl⟩ := h1; obtain ⟨p', q', rfl⟩ := h2; exact ⟨p' ++ p, q ++ q', by simp⟩

theorem sub_joinSep (sep : Str) (l : List Str) (x : Str) (hx : x ∈ l) : Sub x (joinSep sep l) := by
  induction l with
  | nil => cases hx
  | cons a as ih =>
    cases as with
    | nil =>
      have : x = a := by simpa using hx
      subst this; exact Sub.refl _
    | cons b bs =>
      rcases List.mem_cons.1 hx with rfl | h
      · exact ⟨[], sep ++ joinSep sep (b :: bs), by simp [joinSep]⟩
      · have := ih h
        simp only [joinSep]
        rw [List.append_assoc]
        exact Sub.left _ (Sub.left _ this)

def valStrings : Val → List Str
  | .str s => [s]
  | .list l => l

/-- authors and editors are lists, as everywhere in the reference database -/
def WellTyped (kv : Str × Val) : Prop :=
  (kv.1 = "authors".toList ∨ kv.1 = "editors".toList) → ∃ l, kv.2 = .list l

def wellTypedB (kv : Str × Val) : Bool :=
  if kv.1 = "authors".toList ∨ kv.1 = "editors".toList then (match kv.2 with | .list _ => true | .str _ => false) else true

theorem wellTyped_of_B (kv : Str × Val) (h : wellTypedB kv = true) : WellTyped kv := by
  intro hk
  unfold wellTypedB at h
  rw [if_pos hk] at h
  cases hv : kv.2 with
  | list l => exact ⟨l, rfl⟩
  | str s => rw [hv] at h; cases h

theorem sub_listRepr (l : List Str) (x : Str) (hx : x ∈ l) : Sub x (listRepr l) := by
  unfold listRepr
  apply Sub.right
  apply Sub.left
  have : ("'".toList ++ x ++ "'".toList) ∈ l.map (fun x => "'".toList ++ x ++ "'".toList) := List.mem_map.2 ⟨x, hx, rfl⟩
  exact Sub.trans ⟨"'".toList, "'".toList, rfl⟩ (sub_joinSep _ _ _ this)

theorem sub_fmtVal (v : Val) (x : Str) (hx : x ∈ valStrings v) : Sub x (fmtVal v) := by
  cases v with
  | str s =>
    have : x = s := by simpa [valStrings] using hx
    subst this; exact Sub.refl _
  | list l => exact sub_listRepr l x hx

theorem sub_bibLine (kv : Str × Val) (wt : WellTyped kv) (x : Str) (hx : x ∈ valStrings kv.2) : Sub x (bibLine kv) := by
  unfold bibLine
  cases hv : kv.2 with
  | list l =>
    have hxl : x ∈ l := by rw [hv] at hx; exact hx
    have hj : ∀ pre : Str, Sub x (pre ++ joinSep " and ".toList l ++ "}".toList) :=
      fun _ => Sub.right _ (Sub.left _ (sub_joinSep _ l x hxl))
    dsimp only
    by_cases ha : kv.1 = "authors".toList
    · rw [if_pos ha]; exact hj _
    · rw [if_neg ha]
      by_cases he : kv.1 = "editors".toList
      · rw [if_pos he]; exact hj _
      · rw [if_neg he]; exact Sub.right _ (Sub.left _ (sub_listRepr l x hxl))
  | str s =>
    have hxs : x = s := by rw [hv] at hx; simpa [valStrings] using hx
    subst hxs
    -- a string stands under neither of the two keys, so the line is that of an ordinary field
    have no : ¬ (kv.1 = "authors".toList ∨ kv.1 = "editors".toList) := fun h => by
      obtain ⟨l, hl⟩ := wt h; rw [hv] at hl; cases hl
    dsimp only
    rw [if_neg fun h => no (.inl h), if_neg fun h => no (.inr h)]
    exact Sub.right _ (Sub.left _ (Sub.refl _))

theorem tagLines_other (T : Tags) (kv : Str × Val) (h : kv.1 ≠ "authors".toList) :
    ∃ pre, tagLines T kv = [pre ++ fmtVal kv.2] := by
  unfold tagLines
  rw [if_neg h]
  -- six tests on the key (`year`, `journal`, `volume`, `pages`, `title`, `doi`) stand in front of the default line
  iterate 6 refine iteInduction (motive := fun l => ∃ pre, l = [pre ++ fmtVal kv.2]) (fun _ => ⟨_, rfl⟩) fun _ => ?_
  exact ⟨T.other ++ kv.1 ++ ":".toList, rfl⟩

theorem sub_tagLines (T : Tags) (kv : Str × Val) (wt : WellTyped kv) (x : Str) (hx : x ∈ valStrings kv.2) :
    ∃ ln ∈ tagLines T kv, Sub x ln := by
  by_cases h : kv.1 = "authors".toList
  · obtain ⟨l, hl⟩ := wt (Or.inl h)
    rw [hl] at hx
    unfold tagLines
    rw [if_pos h, hl]
    exact ⟨T.au ++ x, List.mem_map.2 ⟨x, hx, rfl⟩, Sub.left _ (Sub.refl _)⟩
  · obtain ⟨pre, hp⟩ := tagLines_other T kv h
    rw [hp]
    exact ⟨_, List.mem_singleton.2 rfl, Sub.left _ (sub_fmtVal _ x hx)⟩

theorem writeTagged_complete (T : Tags) (typeLine : Str → Str) (key : Str) (e : Entry) :
    Sub key (writeTagged T typeLine key e)
    ∧ ∀ kv ∈ e.fields, WellTyped kv → ∀ x ∈ valStrings kv.2, Sub x (writeTagged T typeLine key e) := by
  unfold writeTagged
  refine ⟨?_, ?_⟩
  · exact Sub.right _ (Sub.right _ (Sub.right _ (Sub.right _ (Sub.left _ (Sub.refl _)))))
  · intro kv hkv wt x hx
    obtain ⟨ln, hln, hsub⟩ := sub_tagLines T kv wt x hx
    apply Sub.right
    apply Sub.left
    exact Sub.trans hsub (sub_joinSep _ _ _ (List.mem_flatMap.2 ⟨kv, hkv, hln⟩))

end BSE.RefRender
