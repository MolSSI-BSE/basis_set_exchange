import BSEProofs.Lemmas.PruneValid
/-! C08: the shells `uncontract_segmented` builds from valid shells, and those `uncontract_general`, `make_general` and
`uncontract_spdf` build from *prepared* shells, are prepared: all that the final `prune_basis` of `get_basis` needs to
hand out a valid element. -/
namespace BSE
open BSE.Props.C18
variable {ν : Type}

theorem uncontractSegmented_members (one : ν) (shells : List (Shell ν)) (s : Shell ν) (hs : s ∈ uncontractSegmented one shells) :
    ∃ sh ∈ shells, ∃ e ∈ sh.exps, s = { sh with exps := [e], coefs := List.replicate sh.am.length [one] } := by
  obtain ⟨sh, hsh, hin⟩ := List.mem_flatMap.1 hs
  obtain ⟨e, he, rfl⟩ := List.mem_map.1 hin
  exact ⟨sh, hsh, e, he, rfl⟩

theorem prepared_uncontractSegmented (val : ν → Rat) (one : ν) (h1 : val one = 1) (shells : List (Shell ν))
    (hv : ∀ sh ∈ shells, ValidShell val sh) : ∀ s ∈ uncontractSegmented one shells, Prepared val s := by
  intro s hs
  obtain ⟨sh, hsh, e, he, rfl⟩ := uncontractSegmented_members one shells s hs
  have v := hv sh hsh
  -- one exponent `e`, and per momentum the column `[one]`, whose function is 1 at `val e`
  exact {
    wf := {
      am_ne := v.am_nonempty
      rect := fun c hc => by rw [List.eq_of_mem_replicate hc]; rfl
      cols_ne := by simpa using v.am_nonempty
      live := fun c hc => ⟨val e, by rw [List.eq_of_mem_replicate hc]; simp [colFn, h1, Rat.add_zero]⟩ }
    tagH := v.tag_high
    tagL := v.tag_low
    pos := fun e' he' => by rw [List.mem_singleton.1 he']; exact v.positive _ (List.mem_map_of_mem he)
    fused := fun _ => List.length_replicate }

theorem prepared_uncontractGeneralCore (val : ν → Rat) (shells : List (Shell ν)) (hp : ∀ sh ∈ shells, Prepared val sh) :
    ∀ s ∈ uncontractGeneralCore shells, Prepared val s := by
  intro s hs
  have hwf := semWF_uncontractGeneralCore val shells (fun sh h => (hp sh h).wf) s hs
  obtain ⟨sh, hsh, ⟨_, rfl⟩ | ⟨_, h1, c, _, rfl⟩⟩ := (mem_uncontractGeneralCore shells s).1 hs
  · exact hp _ hsh
  · have p := hp sh hsh
    exact { wf := hwf, tagH := p.tagH, tagL := p.tagL, pos := p.pos, fused := fun hl => absurd hl (by simp [h1]) }

theorem prepared_mergeGroup (val : ν → Rat) (zero : ν) (hz : val zero = 0) (a : Nat) (group : List (Shell ν))
    (hne : group ≠ []) (hv : ∀ sh ∈ group, Prepared val sh ∧ sh.am = [a]) :
    Prepared val (mergeGroup zero [a] group) := by
  obtain ⟨g, r, rfl⟩ := List.exists_cons_of_ne_nil hne
  have hg := hv g (by simp)
  -- the merged shell has the momentum `[a]` and the function type of the first of the group, by computation
  refine {
    wf := semWF_mergeGroup val zero hz a _ hne fun sh hsh => (hv sh hsh).1.wf
    tagH := fun h => hg.1.tagH (by rw [hg.2]; exact h)
    tagL := fun h => hg.1.tagL (by rw [hg.2]; exact h)
    pos := fun e he => ?_
    fused := fun h => absurd h (by simp [mergeGroup]) }
  obtain ⟨sh, hsh, hes⟩ := List.mem_flatMap.1 he
  exact (hv sh hsh).1.pos e hes

theorem prepared_makeGeneralCore [DecidableEq ν] (val : ν → Rat) (zero : ν) (hz : val zero = 0) (shells : List (Shell ν))
    (hv : ∀ sh ∈ shells, Prepared val sh) :
    ∀ s ∈ makeGeneralCore zero sortAm shells, Prepared val s := by
  intro s hs
  rcases (mem_makeGeneralCore zero sortAm mem_sortAm shells (fun sh h => (hv sh h).wf.am_ne) s).1 hs with
    ⟨hs, _⟩ | ⟨a, ⟨s0, hs0, ha⟩, rfl⟩
  · exact hv s hs
  · exact prepared_mergeGroup val zero hz a _ (List.ne_nil_of_mem (List.mem_filter.2 ⟨hs0, by simpa using ha⟩))
      fun sh hsh => ⟨hv sh (List.mem_filter.1 hsh).1, by simpa using (List.mem_filter.1 hsh).2⟩

/-- the function types the schema allows for an electron shell (`schema/common-definitions.json`, the `enum` of `function_type`) -/
def knownTypes : List String := ["gto", "gto_spherical", "gto_cartesian", "sto"]

/-- the base type is a prefix of the type, so what occurs in it occurs in the type -/
theorem strInfix_baseType (p ft : String) (h : strInfix p (baseType ft) = true) : strInfix p ft = true := by
  unfold strInfix baseType at *
  simp only [String.toList_ofList] at h
  obtain ⟨i, hi, hp⟩ := List.any_eq_true.1 h
  have hle := (List.takeWhile_prefix (fun c => c != '_') (l := ft.toList)).length_le
  have hi' : i ≤ (ft.toList.takeWhile (fun c => c != '_')).length := by
    have := List.mem_range.1 hi; omega
  refine List.any_eq_true.2 ⟨i, List.mem_range.2 (by omega), ?_⟩
  rw [← List.takeWhile_append_dropWhile (p := fun c => c != '_') (l := ft.toList), List.drop_append_of_le_length hi']
  exact List.isPrefixOf_iff_prefix.2 ((List.isPrefixOf_iff_prefix.1 hp).trans (List.prefix_append _ _))

theorem prepared_piece (val : ν → Rat) (sh : Shell ν) (p : Prepared val sh)
    (ps : List (Nat × List ν)) (hne : ps ≠ []) (hps : ∀ q ∈ ps, q ∈ sh.am.zip sh.coefs) :
    Prepared val (sh.piece ps) := by
  have hco : ∀ c ∈ ps.map (·.2), c ∈ sh.coefs := fun c hc => by
    obtain ⟨q, hq, rfl⟩ := List.mem_map.1 hc
    exact (List.of_mem_zip (hps q hq)).2
  have hmax : (ps.map (·.1)).foldl max 0 ≤ sh.am.foldl max 0 := foldl_max_le_of_subset _ _ fun a ha => by
    obtain ⟨q, hq, rfl⟩ := List.mem_map.1 ha
    exact (List.of_mem_zip (hps q hq)).1
  have hne' : ps.map (·.1) ≠ [] := by simpa using hne
  refine {
    wf := {
      am_ne := hne'
      rect := fun c hc => p.wf.rect c (hco c hc)
      cols_ne := by simpa [Shell.piece] using hne
      live := fun c hc => p.wf.live c (hco c hc) }
    tagH := fun h => ?_
    tagL := fun h => ?_
    pos := p.pos
    fused := fun _ => by simp [Shell.piece] }
  · have h : (ps.map (·.1)).foldl max 0 > 1 := h
    rw [show (sh.piece ps).ftype = sh.ftype from if_neg fun hh => by omega]
    exact p.tagH (Nat.lt_of_lt_of_le h hmax)
  · have h : ¬ (ps.map (·.1)).foldl max 0 > 1 := h
    rw [show (sh.piece ps).ftype = baseType sh.ftype from if_pos ⟨hne', by omega⟩]
    -- the piece is untagged: the tag of a high shell is cut off, a low shell had none
    by_cases hm : sh.am.foldl max 0 > 1
    · rcases p.tagH hm with e | e <;> rw [e] <;> decide +kernel
    · exact fun hc => p.tagL hm (hc.imp (strInfix_baseType _ _) (strInfix_baseType _ _))

theorem prepared_uncontractSpdf (val : ν → Rat) (k : Nat) (shells : List (Shell ν))
    (hv : ∀ sh ∈ shells, Prepared val sh) :
    ∀ s ∈ uncontractSpdf k shells, Prepared val s := by
  intro s hs
  obtain ⟨sh, hsh, hcase⟩ := (mem_uncontractSpdf k shells s).1 hs
  have hp := hv sh hsh
  rw [splitFused_eq] at hcase
  rcases hcase with ⟨_, rfl⟩ | ⟨_, ⟨rfl, hne⟩ | hin⟩
  · exact hp
  · exact prepared_piece val sh hp _ (fun h0 => hne (by rw [h0]; rfl)) fun q hq => (List.mem_filter.1 hq).1
  · obtain ⟨q, hq, rfl⟩ := List.mem_map.1 hin
    exact prepared_piece val sh hp [q] (by simp) (by simpa using (List.mem_filter.1 hq).1)

end BSE
