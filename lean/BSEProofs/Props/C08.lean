import BSEGen.Api
import BSEProofs.Lemmas.Closure
import BSEProofs.Lemmas.Shapes
/-! # C08 — every basis handed out is well-formed

The closing `prune_basis` of the `get_basis` option pipeline establishes, for *any* shell list it is
given, the three rules that the other manipulations can break: pairwise distinct exponents in a
shell, no unused primitive, no duplicate shell.  The block list is regenerated from `api.py`. -/
namespace BSE.Props.C08

variable {ν : Type}

/-- **after prune_shell the exponents of a shell are pairwise distinct in value**, whatever the
shell looked like before (this is what repairs the concatenations `make_general` produces) -/
theorem pruneShell_distinct_exponents (val : ν → Rat) (sh sh' : Shell ν) (h : pruneShell val sh = .ok sh') :
    sh'.exps.Pairwise (fun a b => val a ≠ val b) := by
  obtain ⟨kept, rfl, _, hp, _⟩ := pruneShell_kept val sh sh' h
  exact hp

/-- **after prune_shell no primitive is unused**: every kept row has a non-zero coefficient -/
theorem pruneShell_no_dead_primitive (val : ν → Rat) (sh sh' : Shell ν) (h : pruneShell val sh = .ok sh') :
    ∃ kept : List (ν × List ν), sh'.exps = kept.map (·.1) ∧ sh'.coefs = zipStar (kept.map (·.2))
      ∧ ∀ p ∈ kept, ∃ c ∈ p.2, val c ≠ 0 := by
  obtain ⟨kept, rfl, hk, _⟩ := pruneShell_kept val sh sh' h
  exact ⟨kept, rfl, rfl, fun p hp => (notAllZero_iff val p).1 (hk p hp).1⟩

/-- **after prune_basis an element has no duplicate shell** -/
theorem pruneShells_nodup [DecidableEq ν] (val : ν → Rat) (shells out : List (Shell ν))
    (h : pruneShells val shells = .ok out) : out.Nodup := by
  obtain ⟨ss, _, rfl⟩ := pruneShells_ok h
  exact (dedup_nil ss).2.1

/-- **the three repair properties hold for everything prune_basis hands out** -/
theorem pruneBasis_establishes [DecidableEq ν] (val : ν → Rat) (shells out : List (Shell ν))
    (h : pruneShells val shells = .ok out) :
    out.Nodup ∧ ∀ s' ∈ out, s'.exps.Pairwise (fun a b => val a ≠ val b) := by
  refine ⟨pruneShells_nodup val shells out h, ?_⟩
  intro s' hs'
  obtain ⟨s, _, hp⟩ := mem_pruneShells val shells out h s' hs'
  exact pruneShell_distinct_exponents val s s' hp

/-! `ValidShell` is the declarative rule list that `Props/C18` proves equivalent to the validator model
(`validateShell_iff`).  The statements below are about *all* rules at once. -/

open BSE.Props.C18

/-- **the output of `prune_shell` satisfies every validator rule** (for a semantically well-formed, correctly tagged
input with positive exponents); the one rule pruning cannot promise, "no duplicate contraction", is a hypothesis -/
theorem pruneShell_output_valid (val : ν → Rat) (sh sh' : Shell ν) (hw : SemWF val sh)
    (htagH : sh.am.foldl max 0 > 1 → (sh.ftype = "gto_spherical" ∨ sh.ftype = "gto_cartesian"))
    (htagL : ¬ sh.am.foldl max 0 > 1 → ¬ (strInfix "spherical" sh.ftype = true ∨ strInfix "cartesian" sh.ftype = true))
    (hpos : ∀ e ∈ sh.exps, val e > 0)
    (hfused : sh.am.length > 1 → sh.coefs.length = sh.am.length)
    (h : pruneShell val sh = .ok sh')
    (hdup : sh'.am.length = 1 → (sh'.coefs.map (·.map val)).Nodup) :
    validateShell val sh' = none :=
  (validateShell_iff val sh').2 (pruneShell_valid val sh sh' ⟨hw, htagH, htagL, hpos, hfused⟩ h hdup)

/-- **pruning a valid shell changes nothing**: the data of the store, which is validated, passes through the closing
`prune_basis` untouched, and pruning is idempotent on valid data -/
theorem pruneShell_identity_on_valid (val : ν → Rat) (sh : Shell ν) (hv : validateShell val sh = none) (hne : sh.coefs ≠ []) :
    pruneShell val sh = .ok sh :=
  pruneShell_id_of_valid val sh ((validateShell_iff val sh).1 hv) hne

/-- **`prune_basis` is the identity on a valid element** (valid, pairwise different shells) -/
theorem pruneShells_identity_on_valid [DecidableEq ν] (val : ν → Rat) (shells : List (Shell ν))
    (hv : ∀ sh ∈ shells, validateShell val sh = none ∧ sh.coefs ≠ []) (hn : shells.Nodup) :
    pruneShells val shells = .ok shells := by
  have hm : mapE (pruneShell val) shells = .ok shells := (mapE_eq _ _).trans <| mapEx_eq_ok.2 <|
    List.map_congr_left fun sh hs => pruneShell_identity_on_valid val sh (hv sh hs).1 (hv sh hs).2
  unfold pruneShells
  rw [hm]
  -- no shell is dropped: the first occurrences are a sub-list with all the members of a list without duplicates
  exact congrArg Except.ok ((dedup_nil shells).1.eq_of_length_le
    (hn.length_le_of_subset fun s hs => ((dedup_nil shells).2.2 s).2 hs))

theorem validateElement_shells [DecidableEq ν] (val : ν → Rat) (out : List (Shell ν))
    (hv : ∀ s ∈ out, ValidShell val s) (hn : out.Nodup) : validateElement val (some out) none false = none := by
  rw [validateElement_iff]
  constructor
  · intro ss h
    cases h
    exact ⟨hv, hn⟩
  · -- there are no potentials
    intro ps h
    cases h

/-! ## closure: the final prune turns every *prepared* shell list into a valid element

`Prepared` (Lemmas/PruneValid.lean) = rectangular non-zero columns, the right spherical/cartesian tag, positive exponents, one
column per member of a fused shell.  Valid shells are prepared; so are the one-primitive shells of `uncontract_segmented`,
the shells `make_general` merges from prepared ones and the parts `uncontract_spdf` splits them into (Lemmas/Closure.lean).
Hence each of these options, followed by the prune that `get_basis` always runs
(`getBasis_always_prunes`), hands out a valid element.  The one rule no pruning can create, "no duplicate contraction in a
single-momentum shell", stays a hypothesis: it fails exactly when the input holds one contracted function twice (known
finding F10b shows the real code doing that). -/

/-- **the final `prune_basis` establishes validity** for every prepared shell list -/
theorem final_prune_establishes_validity [DecidableEq ν] (val : ν → Rat) (shells out : List (Shell ν))
    (hp : ∀ sh ∈ shells, Prepared val sh) (h : pruneShells val shells = .ok out)
    (hdup : ∀ s ∈ out, s.am.length = 1 → (s.coefs.map (·.map val)).Nodup) :
    validateElement val (some out) none false = none := by
  refine validateElement_shells val out (fun s' hs' => ?_) (pruneShells_nodup val _ out h)
  obtain ⟨s, hs, hpr⟩ := mem_pruneShells val shells out h s' hs'
  exact pruneShell_valid val s s' (hp s hs) hpr (hdup s' hs')

theorem final_prune_uncontracted [DecidableEq ν] (val : ν → Rat) (shells out : List (Shell ν))
    (hp : ∀ sh ∈ shells, Prepared val sh) (h1 : ∀ sh ∈ shells, sh.am.length = 1 → sh.coefs.length = 1)
    (h : pruneShells val shells = .ok out) : validateElement val (some out) none false = none := by
  refine final_prune_establishes_validity val shells out hp h fun s' hs' hl => ?_
  obtain ⟨s, hs, hpr⟩ := mem_pruneShells val shells out h s' hs'
  -- a single column cannot repeat
  obtain ⟨c, hc⟩ := List.length_eq_one_iff.1
    ((pruneShell_ncols_wf val s s' (hp s hs).wf hpr).trans (h1 s hs (pruneShell_am val s s' hpr ▸ hl)))
  rw [hc]
  exact List.pairwise_singleton _ _

/-- **`uncontract_segmented` (followed by the prune `get_basis` runs at once) of a valid element is a valid element**:
one shell per primitive with a unit coefficient per momentum, duplicates removed -/
theorem uncontractSegmented_valid [DecidableEq ν] (val : ν → Rat) (one : ν) (h1 : val one = 1) (shells out : List (Shell ν))
    (hv : ∀ sh ∈ shells, validateShell val sh = none)
    (h : pruneShells val (uncontractSegmented one shells) = .ok out) :
    validateElement val (some out) none false = none := by
  refine final_prune_uncontracted val _ out
    (prepared_uncontractSegmented val one h1 shells fun sh hsh => (validateShell_iff val sh).1 (hv sh hsh))
    (fun s hs hl => ?_) h
  obtain ⟨sh, _, e, _, rfl⟩ := uncontractSegmented_members one shells s hs
  exact List.length_replicate.trans hl

theorem prepared_of_validate {val : ν → Rat} {sh : Shell ν} (h : validateShell val sh = none) (hc : sh.coefs ≠ []) :
    Prepared val sh :=
  prepared_of_valid val sh ((validateShell_iff val sh).1 h) hc

/-- **`uncontract_general` of a valid element is a valid element**: every shell satisfies every validator rule and
no shell occurs twice — whatever the element, for every valuation of the number strings -/
theorem uncontractGeneral_valid [DecidableEq ν] (val : ν → Rat) (shells out : List (Shell ν))
    (hv : ∀ sh ∈ shells, validateShell val sh = none ∧ sh.coefs ≠ [])
    (h : uncontractGeneral val shells = .ok out) :
    validateElement val (some out) none false = none :=
  final_prune_uncontracted val _ out (prepared_uncontractGeneralCore val shells fun sh hsh =>
    prepared_of_validate (hv sh hsh).1 (hv sh hsh).2)
    (uncontractGeneralCore_shape shells) h

/-- **`make_general`, fused shells left alone (`skip_spdf=True`, as `optimize_general` calls it)**: valid in, valid out -/
theorem makeGeneral_skip_valid [DecidableEq ν] (val : ν → Rat) (zero : ν) (hz : val zero = 0) (shells out : List (Shell ν))
    (hv : ∀ sh ∈ shells, validateShell val sh = none ∧ sh.coefs ≠ [])
    (h : makeGeneral val zero true shells = .ok out)
    (hdup : ∀ s ∈ out, s.am.length = 1 → (s.coefs.map (·.map val)).Nodup) :
    validateElement val (some out) none false = none :=
  final_prune_establishes_validity val _ out (prepared_makeGeneralCore val zero hz shells fun sh hsh =>
    prepared_of_validate (hv sh hsh).1 (hv sh hsh).2) (makeGeneral_ok h) hdup

/-- **`uncontract_spdf` + the final prune**: valid in, valid out, for every `max_am` and fused shells of any composition -/
theorem uncontractSpdf_prune_valid [DecidableEq ν] (val : ν → Rat) (k : Nat) (shells out : List (Shell ν))
    (hv : ∀ sh ∈ shells, validateShell val sh = none ∧ sh.coefs ≠ [] ∧ sh.ftype ∈ knownTypes)
    (h : pruneShells val (uncontractSpdf k shells) = .ok out)
    (hdup : ∀ s ∈ out, s.am.length = 1 → (s.coefs.map (·.map val)).Nodup) :
    validateElement val (some out) none false = none :=
  final_prune_establishes_validity val _ out (prepared_uncontractSpdf val k shells fun sh hsh =>
    prepared_of_validate (hv sh hsh).1 (hv sh hsh).2.1) h hdup

/-- **`make_general` as `get_basis` calls it** (fused shells split first): valid in, valid out, for elements whose function types are
the schema's — fused shells of any composition (since fix 78fc7083 of the repository the split leaves no empty remainder behind;
before it this theorem needed the hypothesis that every fused shell has an s member, and the real code raised IndexError exactly
where it failed) -/
theorem makeGeneral_full_valid [DecidableEq ν] (val : ν → Rat) (zero : ν) (hz : val zero = 0) (shells out : List (Shell ν))
    (hv : ∀ sh ∈ shells, validateShell val sh = none ∧ sh.coefs ≠ [] ∧ sh.ftype ∈ knownTypes)
    (h : makeGeneral val zero false shells = .ok out)
    (hdup : ∀ s ∈ out, s.am.length = 1 → (s.coefs.map (·.map val)).Nodup) :
    validateElement val (some out) none false = none :=
  final_prune_establishes_validity val _ out (prepared_makeGeneralCore val zero hz _ <|
    prepared_uncontractSpdf val 0 shells fun sh hsh => prepared_of_validate (hv sh hsh).1 (hv sh hsh).2.1)
    (makeGeneral_ok h) hdup

/-- the hypotheses are met: an sp shell of the schema's type passes the validator, and keeps its s member under `max_am = 0` -/
example : let sh : Shell String := { am := [0, 1], ftype := "gto", region := "", exps := ["2.0", "1.0"], coefs := [["0.5", "0.5"], ["0.3", "0.7"]] }
    validateShell numVal sh = none ∧ sh.ftype ∈ knownTypes ∧ (splitFused 0 sh).2.am ≠ [] := by
  refine ⟨by decide +kernel, by decide, by decide⟩

/-- operations that can leave duplicate exponents, dead primitives or duplicate shells behind -/
def needsRepair : Op → Bool
  | .uncontractSegmented | .uncontractGeneral | .removeFree | .optimizeGeneral | .uncontractSpdf _ => true
  | _ => false

/-- every contraction option block of `get_basis` requests the final prune, the prune block comes
after all of them and before the augmentation blocks, and it runs `prune_basis` -/
theorem getBasis_always_prunes :
    (∀ b ∈ BSE.Gen.Api.optionBlocks.take (BSE.Gen.Api.optionBlocks.findIdx (fun b => b.cond == "needs_pruning")),
        b.setsPrune = true)
      ∧ ((BSE.Gen.Api.optionBlocks[BSE.Gen.Api.optionBlocks.findIdx (fun b => b.cond == "needs_pruning")]?).map
          (fun b => b.steps.map (·.op))) = some [.pruneBasis]
      ∧ (∀ b ∈ BSE.Gen.Api.optionBlocks.drop (BSE.Gen.Api.optionBlocks.findIdx (fun b => b.cond == "needs_pruning") + 1),
          b.setsPrune = false ∧ ∀ st ∈ b.steps, needsRepair st.op = false) := by
  decide +kernel

def demoShell : Shell String :=
  { am := [0], ftype := "gto", region := "", exps := ["1.0", "1.00", "2.0"],
    coefs := [["0.5", "0.0", "0.3"], ["0.0", "0.7", "0.0"]] }

example : (pruneShell numVal demoShell).toOption.map (·.exps) = some ["1.0", "2.0"] := by decide +kernel

/-- the hypotheses of the validity theorems are met by a concrete general-contraction shell -/
example : validateShell numVal BSE.Props.C18.good = none ∧ BSE.Props.C18.good.coefs ≠ [] := by
  constructor
  · decide +kernel
  · simp [BSE.Props.C18.good]

end BSE.Props.C08
