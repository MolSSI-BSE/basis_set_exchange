import BSEModel.Compare
import BSEProofs.Lemmas.InsSort
/-! # C19 — comparison and difference tools agree with exact equality of the data

On the model of `curate/compare.py` and `curate/diff.py` (`BSEModel/Compare.lean`; values are exact rationals, the float
sort keys of `sort_shell` come from outside): at tolerance zero the comparisons of entries, vectors, matrices and sorted
shells are equality of values; on lists of shells "equal" is equal length plus mutual subset, which pairs the shells off
when the comparison is an equivalence and need not when it has a tolerance. -/
namespace BSE.Props.C19
open BSE.Cmp

variable {ν : Type}

theorem absR_eq_zero (x : Rat) : absR x = 0 ↔ x = 0 := by
  unfold absR; split <;> grind

theorem absR_pos (x : Rat) (h : x ≠ 0) : absR x > 0 := by
  unfold absR; split <;> grind

/-- **at zero tolerance two numbers compare equal exactly when they are equal — signs included** -/
theorem entryOk_zero (a b : Rat) : entryOk 0 a b = true ↔ a = b := by
  have hz : absR (a - b) = 0 ↔ a = b := by rw [absR_eq_zero]; grind
  unfold entryOk
  by_cases h : a = b
  · rw [if_pos (hz.2 h)]; exact iff_of_true rfl h
  · -- different numbers: the relative difference is infinite or a positive quotient
    have hr : ∀ r, reldiff a b = some r → 0 < r := by
      intro r hr
      unfold reldiff at hr
      split at hr
      · rename_i h0; exact absurd (h0.1.trans h0.2.symm) h
      · split at hr
        · cases hr
        · rename_i h1
          cases hr
          have hm : 0 < minR (absR a) (absR b) := by
            unfold minR; split
            · exact absR_pos a fun e => h1 (Or.inl e)
            · exact absR_pos b fun e => h1 (Or.inr e)
          exact (Rat.lt_div_iff hm).2 (by rw [Rat.zero_mul]; exact absR_pos _ fun e => h (hz.1 ((absR_eq_zero _).2 e)))
    simp only [mt hz.1 h, if_false, h, iff_false]
    cases hq : reldiff a b with
    | none => simp
    | some r => simpa using hr r hq

/-- `vecEq` and `matEq` have this form, one level apart -/
theorem zip_all_iff_map_eq {α β} (R : α → α → Bool) (f : α → β) (hR : ∀ x y, R x y = true ↔ f x = f y) (a b : List α) :
    (a.length == b.length && (a.zip b).all fun p => R p.1 p.2) = true ↔ a.map f = b.map f := by
  induction a generalizing b with
  | nil => cases b <;> simp
  | cons x xs ih =>
    cases b with
    | nil => simp
    | cons y ys =>
      have := ih ys
      simp only [Bool.and_eq_true, beq_iff_eq] at this
      simp only [List.length_cons, List.zip_cons_cons, List.all_cons, List.map_cons, List.cons.injEq, Bool.and_eq_true,
        beq_iff_eq, Nat.add_right_cancel_iff, hR, ← this]
      exact ⟨fun ⟨hl, he, hall⟩ => ⟨he, hl, hall⟩, fun ⟨he, hl, hall⟩ => ⟨hl, he, hall⟩⟩

/-- vectors: equal length and entrywise equal values -/
theorem vecEq_zero (val : ν → Rat) (a b : List ν) : vecEq val 0 a b = true ↔ a.map val = b.map val :=
  zip_all_iff_map_eq (fun x y => entryOk 0 (val x) (val y)) val (fun _ _ => entryOk_zero _ _) a b

theorem matEq_zero (val : ν → Rat) (a b : List (List ν)) :
    matEq val 0 a b = true ↔ a.map (·.map val) = b.map (·.map val) :=
  zip_all_iff_map_eq (vecEq val 0) (·.map val) (vecEq_zero val) a b

/-- **zero tolerance: two (sorted) shells compare equal exactly when they have the same angular
momentum and the same table of exponent and *signed* coefficient values, whatever the number notation** -/
theorem compareSorted_zero (val : ν → Rat) (s1 s2 : Shell ν) :
    compareSorted val 0 false s1 s2 = true
      ↔ s1.am = s2.am ∧ (shellRows s1).map (·.map val) = (shellRows s2).map (·.map val) := by
  simp [compareSorted, matEq_zero]

theorem subsetBy_iff {α} (R : α → α → Bool) (l1 l2 : List α) :
    subsetBy R l1 l2 = true ↔ ∀ a ∈ l1, ∃ b ∈ l2, R a b = true := by
  simp [subsetBy, List.all_eq_true, List.any_eq_true]

/-- for an equivalence relation and lists without internal duplicates, "equal" means that every
shell of either list has **exactly one** partner in the other list -/
theorem equalBy_unique_partner {α} (R : α → α → Bool)
    (symm : ∀ a b, R a b = true → R b a = true) (trans : ∀ a b c, R a b = true → R b c = true → R a c = true)
    (l1 l2 : List α) (hd2 : l2.Pairwise (fun a b => R a b = false))
    (h : equalBy R l1 l2 = true) :
    ∀ a ∈ l1, ∃ b ∈ l2, R a b = true ∧ ∀ b' ∈ l2, R a b' = true → b' = b := by
  simp only [equalBy, Bool.and_eq_true] at h
  intro a ha
  obtain ⟨b, hb, hab⟩ := (subsetBy_iff R l1 l2).1 h.1.2 a ha
  refine ⟨b, hb, hab, ?_⟩
  intro b' hb' hab'
  -- b and b' are related both ways: in a pairwise-unrelated list they are the same member
  have hbb' : R b b' = true := trans b a b' (symm a b hab) hab'
  rcases InsSort.pairwise_eq_or_rel hd2 hb' hb with e | e | e
  · exact e
  · rw [symm _ _ hbb'] at e; cases e
  · rw [hbb'] at e; cases e

/-- **diff: the result is precisely the left shells that no right shell matches, in order** -/
theorem subtractBy_spec {α} (R : α → α → Bool) (l1 l2 : List α) :
    (∀ a, a ∈ subtractBy R l1 l2 ↔ a ∈ l1 ∧ ∀ b ∈ l2, R a b = false)
      ∧ (subtractBy R l1 l2).Sublist l1 := by
  exact ⟨fun a => by simp [subtractBy, List.mem_filter], List.filter_sublist⟩

/-- subtracting several right operands one after the other = subtracting their union -/
theorem subtractBy_append {α} (R : α → α → Bool) (l r1 r2 : List α) :
    subtractBy R (subtractBy R l r1) r2 = subtractBy R l (r1 ++ r2) := by
  simp only [subtractBy, List.filter_filter, List.any_append]
  apply List.filter_congr
  intro a _
  cases l1 : r1.any (R a) <;> cases l2 : r2.any (R a) <;> simp

def insertAll {α} (x : α) : List α → List (List α)
  | [] => [[x]]
  | y :: ys => (x :: y :: ys) :: (insertAll x ys).map (y :: ·)

def perms {α} : List α → List (List α)
  | [] => [[]]
  | x :: xs => (perms xs).flatMap (insertAll x)

def tolR : Rat → Rat → Bool := fun a b => entryOk (11 / 1000) a b
def tolL1 : List Rat := [100 / 100, 102 / 100, 201 / 100]
def tolL2 : List Rat := [101 / 100, 200 / 100, 202 / 100]

/-- **with a tolerance, equal length and mutual subset do not make a pairing**: three shells per side (single
primitive, exponents as above), tolerance 0.011: every shell of either side is within tolerance of some shell of the other
side, the lengths agree, so the code answers "equal" — yet `1.00` and `1.02` both have `1.01` as their only partner, so the
two sides cannot be paired one-to-one -/
theorem tolerance_subset_is_not_pairing :
    equalBy tolR tolL1 tolL2 = true
      ∧ (perms tolL2).all (fun σ => !((tolL1.zip σ).all (fun p => tolR p.1 p.2))) = true := by
  decide +kernel

theorem perm_of_nodup_subset {α} (l1 l2 : List α) (hn : l1.Nodup) (hs : ∀ a ∈ l1, a ∈ l2) (hl : l2.length ≤ l1.length) :
    l1.Perm l2 := by
  classical
  induction l1 generalizing l2 with
  | nil => rw [List.eq_nil_of_length_eq_zero (Nat.le_zero.1 hl)]
  | cons a t ih =>
    obtain ⟨ha, ht⟩ := List.nodup_cons.1 hn
    have hmem : a ∈ l2 := hs a (by simp)
    have hsub : ∀ b ∈ t, b ∈ l2.erase a := fun b hb =>
      (List.mem_erase_of_ne (fun (e : b = a) => ha (e ▸ hb))).2 (hs b (by simp [hb]))
    have hlen : (l2.erase a).length ≤ t.length := by
      rw [List.length_erase_of_mem hmem]; simp only [List.length_cons] at hl; omega
    exact ((ih _ ht hsub hlen).cons a).trans (List.perm_cons_erase hmem).symm

/-- **with a tolerance: "equal" is a perfect matching whenever partners are unique.**  If no shell of either list is within
tolerance of two shells of the other list (`hsep`, DESIGN.md's `Separated`; the counter-example above is exactly a violation of it) and neither list
repeats a shell, then the code's answer — equal length and mutual subset — yields a one-to-one pairing: a function `f` with
every shell `a` of the first list within tolerance of `f a`, and the images forming a permutation of the second list. -/
theorem equalBy_is_matching {α} [Inhabited α] (R : α → α → Bool) (l1 l2 : List α)
    (hn1 : l1.Nodup) (hn2 : l2.Nodup)
    (hsep : ∀ b ∈ l2, ∀ a ∈ l1, ∀ a' ∈ l1, R a b = true → R a' b = true → a = a')
    (h : equalBy R l1 l2 = true) :
    ∃ f : α → α, (∀ a ∈ l1, R a (f a) = true) ∧ (l1.map f).Perm l2 := by
  simp only [equalBy, Bool.and_eq_true, beq_iff_eq] at h
  obtain ⟨⟨hlen, hsub⟩, _⟩ := h
  have hex := (subsetBy_iff R l1 l2).1 hsub
  let f : α → α := fun a => (l2.find? (R a)).getD default
  have hf : ∀ a ∈ l1, f a ∈ l2 ∧ R a (f a) = true := fun a ha => by
    obtain ⟨b, hb, hab⟩ := hex a ha
    cases hfd : l2.find? (R a) with
    | none => exact absurd hab (List.find?_eq_none.1 hfd b hb)
    | some c => simpa [f, hfd] using ⟨List.mem_of_find?_eq_some hfd, List.find?_some hfd⟩
  refine ⟨f, fun a ha => (hf a ha).2, ?_⟩
  -- the images are pairwise different (a shell of the second list has at most one partner), lie in l2, and are as many as l2
  have hnd : (l1.map f).Nodup :=
    List.pairwise_map.2 (hn1.imp_of_mem fun {a a'} ha ha' hne heq =>
      hne (hsep (f a) (hf a ha).1 a ha a' ha' (hf a ha).2 (heq ▸ (hf a' ha').2)))
  refine perm_of_nodup_subset _ _ hnd (fun x hx => ?_) (by simp [hlen])
  obtain ⟨a, ha, rfl⟩ := List.mem_map.1 hx
  exact (hf a ha).1

/-- on concrete strings: other spellings of the same numbers compare equal, a flipped sign does not -/
example : vecEq numVal 0 ["1.0", "-0.5"] ["1.00E+00", "-5.0e-1"] = true
    ∧ vecEq numVal 0 ["1.0", "-0.5"] ["1.0", "0.5"] = false := by decide +kernel

end BSE.Props.C19
