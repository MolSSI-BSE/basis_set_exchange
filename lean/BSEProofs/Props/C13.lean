import BSEModel.AutoAux
/-! # C13 — generated auxiliary basis sets depend only on the orbital function space

What is proved is about the exact-arithmetic logic of `manip.autoaux_basis` / `autoabs_basis` (`BSE.AutoAux`, over `Rat`): the
thresholds, ratios and formulas are those regenerated from the source (`BSE.Gen.Manip`); a ladder starts at its first argument,
multiplies by `b` and stops at the first exponent `≥ amax`; `couples` lists the pairs of orbital momenta that couple to an auxiliary
momentum.  Floating point is not modelled. -/
namespace BSE.Props.C13
open BSE.AutoAux BSE.Gen.Manip

/-- **the angular-momentum cap**: never above twice the orbital maximum, and exactly the documented formula -/
theorem lmaxAux_cap (lval linc lmax : Nat) :
    lmaxAuxOf lval linc lmax ≤ 2 * lmax ∧ lmaxAuxOf lval linc lmax ≤ max (2 * lval) (lmax + linc) := by
  unfold lmaxAuxOf; omega

/-- **the element thresholds of AutoAux** (read from the source): lval 0/1/2/3 changes after Z = 2, 20, 56;
linc 1/2 changes after Z = 18 -/
theorem autoaux_thresholds : ∀ Z ∈ List.range 121,
    lvalAux Z = (if Z ≤ 2 then 0 else if Z ≤ 20 then 1 else if Z ≤ 56 then 2 else 3)
      ∧ lincAux Z = (if Z ≤ 18 then 1 else 2) := by decide +kernel

/-- **the element thresholds of AutoABS**: after Z = 2, 18, 54 -/
theorem autoabs_thresholds : ∀ Z ∈ List.range 121,
    lvalAbs Z = (if Z ≤ 2 then 0 else if Z ≤ 18 then 1 else if Z ≤ 54 then 2 else 3) := by decide +kernel

/-- **the published ratios** (Stoychev, Auer, Neese 2017, table 1) are the ones in the source -/
theorem ratios_published :
    flaux = [20, 7, 4, 4, 7/2, 5/2, 2, 2] ∧ blauxBig = [9/5, 2, 11/5, 11/5, 11/5, 23/10, 3, 3] ∧ bSmall = 9/5 := by
  decide +kernel

theorem formulas_as_documented :
    autoauxLmaxExpr = "min(max(2 * lval, lmax + linc), 2 * lmax)"
      ∧ autoabsLmaxExpr = "min(max(2 * lval, lmax + lmaxinc), 2 * lmax)"
      ∧ autoabsDefaults = [("lmaxinc", "1"), ("fsam", "1.5")] := ⟨rfl, rfl, rfl⟩

theorem ladder_head (fuel : Nat) (a b amax : Rat) : (ladder (fuel + 1) a b amax).head? = some a := rfl

/-- consecutive exponents differ by exactly the ratio `b` -/
theorem ladder_ratio (fuel : Nat) (a b amax : Rat) :
    ∀ i, ∀ x y, (ladder fuel a b amax)[i]? = some x → (ladder fuel a b amax)[i + 1]? = some y → y = x * b := by
  induction fuel generalizing a with
  | zero => intro i x y h; cases h
  | succ k ih =>
    intro i x y hx hy
    unfold ladder at hx hy
    split at hy
    · cases hy
    · rename_i hc
      cases i with
      | zero =>
        cases hx
        cases k with
        | zero => cases hy
        | succ k' => exact (Option.some.inj hy).symm
      | succ i' => exact ih (a * b) i' x y (by simpa [hc] using hx) hy

/-- every exponent except the last is still below the upper bound (the loop had to go on) -/
theorem ladder_below (fuel : Nat) (a b amax : Rat) :
    ∀ i, ∀ x, (ladder fuel a b amax)[i]? = some x → i + 1 < (ladder fuel a b amax).length → x < amax := by
  induction fuel generalizing a with
  | zero => intro i x h; cases h
  | succ k ih =>
    intro i x hx hl
    unfold ladder at hx hl
    split at hl
    · simp at hl
    · rename_i hc
      cases i with
      | zero => cases hx; exact Rat.not_le.1 hc
      | succ i' => exact ih (a * b) i' x (by simpa [hc] using hx) (by simpa using hl)

/-- if the ladder ended before the fuel ran out, its last exponent reaches the upper bound -/
theorem ladder_reaches (fuel : Nat) (a b amax : Rat) (h : (ladder fuel a b amax).length < fuel) :
    ∃ x, (ladder fuel a b amax).getLast? = some x ∧ x ≥ amax := by
  induction fuel generalizing a with
  | zero => cases h
  | succ k ih =>
    unfold ladder at h ⊢
    split
    · rename_i hc; exact ⟨a, rfl, hc⟩
    · rename_i hc
      obtain ⟨x, hx, hge⟩ := ih (a * b) (by simpa [hc] using h)
      refine ⟨x, ?_, hge⟩
      rw [List.getLast?_cons, hx]; rfl

theorem mem_couples (lmax laux l lp : Nat) :
    (l, lp) ∈ couples lmax laux ↔ l ≤ lp ∧ lp ≤ lmax ∧ lp - l ≤ laux ∧ laux ≤ l + lp := by
  unfold couples
  simp only [List.mem_flatMap, List.mem_range, List.mem_map, List.mem_filter, decide_eq_true_eq, Prod.mk.injEq]
  constructor
  · rintro ⟨l', hl', lp', ⟨hlp', h1, h2, h3⟩, rfl, rfl⟩
    exact ⟨h1, by omega, h2, h3⟩
  · rintro ⟨h1, h2, h3, h4⟩
    exact ⟨l, by omega, lp, ⟨by omega, h1, h3, h4⟩, rfl, rfl⟩

theorem minOver_eq_min? (f : Nat × Nat → Rat) (ps : List (Nat × Nat)) : minOver f ps = (ps.map f).min? := by
  induction ps with
  | nil => rfl
  | cons p ps ih =>
    rw [minOver, ih, List.map_cons, List.min?_cons]
    cases (ps.map f).min? <;> rfl

/-- the ladder start is the **smallest** sum of two orbital minimum exponents over the coupling pairs -/
theorem minOver_is_min (f : Nat × Nat → Rat) (ps : List (Nat × Nat)) (m : Rat) (h : minOver f ps = some m) :
    (∃ p ∈ ps, f p = m) ∧ ∀ p ∈ ps, m ≤ f p := by
  rw [minOver_eq_min?, List.min?_eq_some_iff] at h
  exact ⟨List.mem_map.1 h.1, fun p hp => h.2 _ (List.mem_map_of_mem hp)⟩

/-- **representation independence**: the plan is a function of the element number and of the
per-momentum extreme exponents only — nothing else about the orbital basis enters (by construction
of `autoauxPlan`; stated so that any change of its signature is visible) -/
theorem autoaux_repr_indep (Z : Nat) (amin amaxP amaxE amin' amaxP' amaxE' : List Rat) (fuel : Nat)
    (h1 : amin = amin') (h2 : amaxP = amaxP') (h3 : amaxE = amaxE') :
    autoauxPlan Z amin amaxP amaxE fuel = autoauxPlan Z amin' amaxP' amaxE' fuel := by
  subst h1; subst h2; subst h3; rfl

example : ladder 10 1 2 5 = [1, 2, 4, 8] := by decide +kernel
example : lmaxAuxOf (lvalAux 30) (lincAux 30) 2 = 4 ∧ lmaxAuxOf (lvalAux 1) (lincAux 1) 1 = 2 := by decide +kernel

end BSE.Props.C13
