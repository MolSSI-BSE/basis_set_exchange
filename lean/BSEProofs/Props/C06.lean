import BSEModel.Memo
import BSEGen.Memo
import BSEGen.MemoShape
import BSEProofs.Lemmas.MemoHeapInv
/-! # C06 — caching is invisible

(1) `_make_key` binds exactly as Python binds, for every binding shape of every memoised signature
(regenerated from the source); (2) the memoiser returns what the uncached function returns along
every schedule of every number of threads, with the cache switched on and off at any point; (3) with results
as objects the caller may overwrite, every call still hands over an object that holds the function's value. -/
namespace BSE.Props.C06
open BSE.Memo

/-- the memoised signatures of the source, defaults replaced by distinct markers (their values do not
matter for binding) -/
def specs : List (Spec Nat) :=
  BSE.Gen.Memo.signatures.map fun s => ⟨s.2.1, (List.range s.2.2.length).map (· + 900)⟩

/-- **for every memoised function and every positional/keyword/default binding shape: if Python can
bind the call, the key is the bound argument vector; if it cannot, no key is made (the call is
passed through and raises)**.  Enumerated completely by the kernel. -/
theorem makeKey_valid_all_shapes : (specs.all fun s => (allCalls s).all (okCall s)) = true := by
  decide +kernel

theorem makeKey_of_ok {s : Spec Nat} {c : List Nat × List (String × Nat)} {b : List Nat}
    (h : okCall s c = true) (hb : bound s c.1 c.2 = some b) : makeKey s c.1 c.2 = .key b := by
  unfold okCall at h
  rw [hb] at h
  cases hk : makeKey s c.1 c.2 with
  | key k => rw [hk] at h; exact congrArg _ (beq_iff_eq.1 h)
  | none => rw [hk] at h; cases h
  | raise => rw [hk] at h; cases h

/-- hence two bindable calls share a key exactly when they bind the same argument values -/
theorem key_iff_same_binding (s : Spec Nat) (c1 c2 : List Nat × List (String × Nat))
    (h1 : okCall s c1 = true) (h2 : okCall s c2 = true)
    (b1 b2 : List Nat) (hb1 : bound s c1.1 c1.2 = some b1) (hb2 : bound s c2.1 c2.2 = some b2) :
    makeKey s c1.1 c1.2 = makeKey s c2.1 c2.2 ↔ b1 = b2 := by
  rw [makeKey_of_ok h1 hb1, makeKey_of_ok h2 hb2]
  exact ⟨KeyRes.key.inj, congrArg _⟩

section
variable {A K V : Type} [DecidableEq K]

/-- every cache entry, and every call in flight, is consistent with the pure function -/
def Inv (key : A → Option K) (F : A → V) (s : MState A K V) : Prop :=
  (∀ kv ∈ s.cache, ∀ a, key a = some kv.1 → kv.2 = F a)

/-- `hinj`: calls with the same key have the same pure result (C06 part 1 for the real keys, plus the
premise that the data directory is not modified meanwhile). -/
theorem step_correct (key : A → Option K) (F : A → V) (hinj : ∀ a a', key a = key a' → key a ≠ none → F a = F a')
    (s : MState A K V) (hI : Inv key F s) (hfl : ∀ t ∈ s.inflight, key t.2.1 = some t.2.2) (st : Step A) :
    Inv key F (step key F s st).1
      ∧ (∀ t ∈ (step key F s st).1.inflight, key t.2.1 = some t.2.2)
      ∧ ∀ o, (step key F s st).2 = some o → o.2 = F o.1 := by
  cases st with
  | toggle => exact ⟨hI, hfl, fun o h => nomatch h⟩
  | begin t a =>
    simp only [step]
    split
    · -- the cache is switched off: the caller gets `F a`
      exact ⟨hI, hfl, fun o h => by cases h; rfl⟩
    · split
      · -- the call has no key: likewise
        exact ⟨hI, hfl, fun o h => by cases h; rfl⟩
      · rename_i k hk
        split
        · -- a hit: by the invariant the entry found is `F a`
          rename_i v hc
          exact ⟨hI, hfl, fun o h => by cases h; exact hI (k, v) (mem_of_find?_map _ _ _ hc) a hk⟩
        · -- a miss: the call goes in flight under its key, nothing is handed over yet
          exact ⟨hI, List.forall_mem_cons.2 ⟨hk, hfl⟩, fun o h => nomatch h⟩
  | finish t =>
    simp only [step]
    split
    · -- thread `t` has no call in flight
      exact ⟨hI, hfl, fun o h => nomatch h⟩
    · -- its call `a` returns: `F a` is filed under `k`, and every call with the key `k` has this value (`hinj`)
      rename_i t0 a k hf
      have hka : key a = some k := hfl _ (List.mem_of_find?_eq_some hf)
      refine ⟨List.forall_mem_cons.2 ⟨fun a' ha' => ?_, hI⟩, fun t' ht' => hfl t' (List.mem_filter.1 ht').1,
        fun o h => by cases h; rfl⟩
      exact hinj a a' (hka.trans ha'.symm) (by rw [hka]; exact Option.some_ne_none k)

/-- **along every schedule — any number of threads, any interleaving of lookups, stores and cache
toggles — every value handed to a caller is the value the uncached function gives** -/
theorem memo_refines_pure (key : A → Option K) (F : A → V) (hinj : ∀ a a', key a = key a' → key a ≠ none → F a = F a')
    (sched : List (Step A)) (s : MState A K V) (hI : Inv key F s) (hfl : ∀ t ∈ s.inflight, key t.2.1 = some t.2.2) :
    ∀ o ∈ run key F s sched, o.2 = F o.1 := by
  induction sched generalizing s with
  | nil => intro o h; simp [run] at h
  | cons st rest ih =>
    intro o h
    obtain ⟨h1, h2, h3⟩ := step_correct key F hinj s hI hfl st
    simp only [run, List.mem_append] at h
    rcases h with h | h
    · cases ho : (step key F s st).2 with
      | none => simp [ho] at h
      | some o' =>
        simp only [ho, List.mem_singleton] at h
        rw [h]
        exact h3 o' ho
    · exact ih _ h1 h2 o h

/-- from the initial state (empty cache, nothing in flight) -/
theorem memo_refines_pure_init (key : A → Option K) (F : A → V) (hinj : ∀ a a', key a = key a' → key a ≠ none → F a = F a')
    (sched : List (Step A)) (en : Bool) :
    ∀ o ∈ run key F ⟨en, [], []⟩ sched, o.2 = F o.1 :=
  memo_refines_pure key F hinj sched _ (by intro kv h; cases h) (by intro t h; cases h)
end


/-! ### (3) results are objects the caller may overwrite

`BSEMemoize.__call__` as it stands in the source (regenerated on every run): after a miss it files `pickle.dumps(ret)`, on a hit it
returns `pickle.loads(...)`, a disabled memoiser and an unbindable call go straight to the function. -/

theorem call_shape_is_good : BSE.Gen.MemoShape.callShape = BSE.MemoHeap.good := by decide

/-- **previously returned objects mutated arbitrarily by the caller**: along every history of calls, overwrites of any object by
any content (`scribble`), and toggles of the switch, every call hands over an object whose content at that moment is the value of the
function — the cache holds serialised copies, never an object a caller can reach -/
theorem memo_isolated_from_caller_mutation {A K V : Type} [DecidableEq K] (key : A → Option K) (F : A → V)
    (hinj : ∀ a a', key a = key a' → key a ≠ none → F a = F a') (history : List (BSE.MemoHeap.Op A V)) :
    ∀ p ∈ BSE.MemoHeap.run BSE.Gen.MemoShape.callShape key F BSE.MemoHeap.init history, p.2 = some (F p.1) := by
  rw [call_shape_is_good]
  exact BSE.MemoHeap.run_good key F hinj history _ (BSE.MemoHeap.init_inv key F)

/-- the model can tell: a memoiser that files the object itself (`self.__memo[k] = ret`) hands a scribbled-over object to the next caller -/
theorem live_store_leaks :
    BSE.MemoHeap.run (A := Nat) (K := Nat) (V := Nat) ⟨.live, .unpickled, .computed, true, true⟩ (fun a => some a) (fun _ => 0)
      BSE.MemoHeap.init [.call 5, .scribble 0 7, .call 5] = [(5, some 0), (5, some 7)] := by decide

/-- under the shape of the source the history of `live_store_leaks`, continued with toggles and a second overwrite,
hands over the function's value at every call -/
example : BSE.MemoHeap.run (A := Nat) (K := Nat) (V := Nat) BSE.Gen.MemoShape.callShape (fun a => some a) (fun _ => 0)
      BSE.MemoHeap.init [.call 5, .scribble 0 7, .call 5, .toggle, .call 5, .scribble 2 9, .toggle, .call 5]
        = [(5, some 0), (5, some 0), (5, some 0), (5, some 0)] := by decide

/-- threads 1 and 2 overlap on one key; thread 3 calls once with the cache switched off and once with it on,
where it hits the entry thread 1 stored -/
example : run (A := Nat) (K := Nat) (V := Nat) (fun a => some (a % 3)) (fun a => (a % 3) * 10) ⟨true, [], []⟩
    [.begin 1 4, .begin 2 7, .finish 1, .toggle, .begin 3 1, .toggle, .begin 3 10, .finish 2]
      = [(4, 10), (1, 10), (10, 10), (7, 10)] := by decide +kernel

example : (specs.map fun s => ((allCalls s).filter fun c => (bound s c.1 c.2).isSome).length) ≠ [] := by decide +kernel

end BSE.Props.C06
