import BSEProofs.Lemmas.Dict
import BSEProofs.Lemmas.ComposeSpec
import BSEProofs.Lemmas.SortStr
/-! # C01 — get_basis returns exactly the curated data it is composed from

Statements about `BSE.Compose` (the model of `compose.py` + `manip.merge_element_data`): what the
merged element contains, in which order, and when composition is refused. -/
namespace BSE.Props.C01
open BSE.Compose BSE.Dict

def listOf (d : Dict) (k : String) : List J := match get? d k with | some (.arr l) => l | _ => []

theorem listOf_congr {d d' : Dict} {k : String} (h : get? d k = get? d' k) : listOf d k = listOf d' k := by
  unfold listOf; rw [h]

theorem listOf_set_other (d : Dict) (k k' : String) (v : J) (h : k ≠ k') : listOf (Dict.set d k v) k' = listOf d k' :=
  listOf_congr (get?_set_other d k k' v h)

theorem listOf_set (d : Dict) (k : String) (l : List J) : listOf (Dict.set d k (.arr l)) k = l := by
  unfold listOf; rw [get?_set_same]

theorem appendField_spec (ret s r : Dict) (k : String) (h : appendField ret k s = .ok r) :
    listOf r k = listOf ret k ++ listOf s k ∧ ∀ k', k' ≠ k → get? r k' = get? ret k' := by
  unfold appendField at h
  split at h
  · cases h; simp [listOf, *]
  · split at h
    · cases h; exact ⟨by rw [listOf_set]; simp [listOf, *], fun k' hk => get?_set_other _ _ _ _ (Ne.symm hk)⟩
    · cases h; exact ⟨by rw [listOf_set]; simp [listOf, *], fun k' hk => get?_set_other _ _ _ _ (Ne.symm hk)⟩
    · cases h
  · cases h

theorem setEcp_ok {ret s r : Dict} : setEcp ret s = .ok r →
    (get? s "ecp_potentials" = none ∧ r = ret)
    ∨ ∃ p n, get? s "ecp_potentials" = some p ∧ get? s "ecp_electrons" = some n ∧ has ret "ecp_potentials" = false
        ∧ r = Dict.set (Dict.set ret "ecp_potentials" p) "ecp_electrons" n := by
  fun_cases setEcp ret s with
  | case1 hp => exact fun h => Or.inl ⟨hp, (Except.ok.inj h).symm⟩  -- the source has no ECP
  | case2 | case3 => nofun  -- a second ECP, an ECP without electron count
  | case4 p hp hr n hn =>  -- the first ECP, with its electron count
    exact fun h => Or.inr ⟨p, n, hp, hn, Bool.eq_false_iff.2 hr, (Except.ok.inj h).symm⟩

theorem setEcp_keeps {ret s r : Dict} (h : setEcp ret s = .ok r) (k : String) (h1 : k ≠ "ecp_potentials")
    (h2 : k ≠ "ecp_electrons") : get? r k = get? ret k := by
  rcases setEcp_ok h with ⟨_, rfl⟩ | ⟨p, n, _, _, _, rfl⟩
  · rfl
  · rw [get?_set_other _ _ _ _ h2.symm, get?_set_other _ _ _ _ h1.symm]

/-- a first ECP is taken over verbatim, together with its electron count -/
theorem setEcp_first (ret s : Dict) (p n : J) (hr : has ret "ecp_potentials" = false)
    (hp : get? s "ecp_potentials" = some p) (hn : get? s "ecp_electrons" = some n) :
    ∃ r, setEcp ret s = .ok r ∧ get? r "ecp_potentials" = some p ∧ get? r "ecp_electrons" = some n :=
  ⟨Dict.set (Dict.set ret "ecp_potentials" p) "ecp_electrons" n, by simp [setEcp, hp, hr, hn], by simp [get?_set],
    by simp [get?_set]⟩

theorem mergeOne_spec (ret s r : Dict) : mergeOne ret s = .ok r →
    listOf r "electron_shells" = listOf ret "electron_shells" ++ listOf s "electron_shells"
    ∧ listOf r "references" = listOf ret "references" ++ listOf s "references"
    ∧ (has s "ecp_potentials" = true → has ret "ecp_potentials" = false)
    ∧ has r "ecp_potentials" = (has ret "ecp_potentials" || has s "ecp_potentials") := by
  fun_cases mergeOne ret s with
  | case1 | case2 => nofun  -- the shells cannot be appended, `setEcp` refuses
  | case3 r1 h1 r2 h2 =>  -- shells appended (`r1`), ECP set (`r2`), the result is that of appending the references
    intro h
    -- each `appendField` appends to its own key (`a1`, `a3`) and leaves every other key as it was (`k1`, `k3`)
    obtain ⟨a1, k1⟩ := appendField_spec ret s r1 _ h1
    obtain ⟨a3, k3⟩ := appendField_spec r2 s r _ h
    simp only [has_eq_isSome, k3 "ecp_potentials" (by simp), ← k1 "ecp_potentials" (by simp)]
    rw [listOf_congr (k3 "electron_shells" (by simp)), a3, ← listOf_congr (k1 "references" (by simp)), ← a1]
    -- `setEcp` in between leaves both lists alone; what is left is the two statements about the ECP key
    have k2 := setEcp_keeps h2
    refine ⟨listOf_congr (k2 _ (by simp) (by simp)), by rw [listOf_congr (k2 "references" (by simp) (by simp))], ?_⟩
    rcases setEcp_ok h2 with ⟨hs, rfl⟩ | ⟨p, n, hs, _, hr1, rfl⟩
    · simp [hs]
    · rw [has_eq_isSome] at hr1
      simp [hs, hr1, get?_set]

/-- **the merged element holds exactly the shells and reference groups of its components,
concatenated in component order — nothing invented, dropped, duplicated or reordered** -/
theorem mergeElementData_spec (sources : List Dict) (acc r : Dict) (h : mergeElementData sources acc = .ok r) :
    listOf r "electron_shells" = listOf acc "electron_shells" ++ sources.flatMap (listOf · "electron_shells")
      ∧ listOf r "references" = listOf acc "references" ++ sources.flatMap (listOf · "references") := by
  fun_induction mergeElementData sources acc with
  | case1 acc => cases h; simp
  | case2 => cases h
  | case3 s rest acc r1 hm ih =>
    obtain ⟨a, b, _⟩ := mergeOne_spec acc s r1 hm
    obtain ⟨c, d⟩ := ih h
    simp [c, d, a, b]

theorem mergeElementData_one_ecp (sources : List Dict) (acc r : Dict) (h : mergeElementData sources acc = .ok r) :
    ((acc :: sources).filter (has · "ecp_potentials")).length ≤ 1 := by
  fun_induction mergeElementData sources acc with
  | case1 acc => exact List.length_filter_le _ [acc]
  | case2 => cases h
  | case3 s rest acc r1 hm ih =>
    obtain ⟨_, _, hfirst, hr1⟩ := mergeOne_spec acc s r1 hm
    have := ih h
    simp only [List.filter_cons, hr1] at this ⊢
    revert hfirst this
    cases has s "ecp_potentials" <;> cases has acc "ecp_potentials" <;> simp

/-- **two ECPs among the components of one element ⇒ the element is refused** -/
theorem mergeElementData_two_ecps (s1 s2 : Dict) (acc : Dict) (n : J)
    (h1 : has s1 "ecp_potentials" = true) (hn : get? s1 "ecp_electrons" = some n) (h2 : has s2 "ecp_potentials" = true)
    (hacc : has acc "ecp_potentials" = false) :
    ∀ r, mergeElementData [s1, s2] acc ≠ .ok r := by
  intro r h
  have := mergeElementData_one_ecp _ acc r h
  simp only [List.filter_cons, h1, h2, if_true] at this
  split at this <;> simp at this

/-- `function_types` contains a type iff some shell / potential of the returned elements has it -/
theorem mem_sortDedupStr (l : List String) (y : String) : y ∈ sortDedupStr l ↔ y ∈ l :=
  BSE.SortStr.mem_sortDedupStr l y

/-- a key that occurs once in the metadata file is taken from there -/
theorem get?_update_single (d : Dict) (pre post : Dict) (k : String) (v : J)
    (h1 : has post k = false) : get? (Dict.update d (pre ++ (k, v) :: post)) k = some v := by
  rw [update_append, update_cons, get?_update_of_not_has _ _ _ h1, get?_set_same]

/-- **compose_elemental_basis = specification**: if it returns, the result is the element file with each element
replaced, in order, by the merge of exactly the component entries `designated` names for it (element file →
`components` list → that element's entry in each component, reference keys wrapped with the component's description) -/
theorem composeElemental_refines (dir : Dir) (p : String) (r : Dict) (h : composeElemental dir p = .ok r) :
    ∃ (el_bs els : Dict) (newEls : List (String × J)),
      readBasis dir p = .ok el_bs ∧ Dict.get? el_bs "elements" = some (.obj els)
      ∧ r = Dict.set el_bs "elements" (.obj newEls)
      ∧ newEls.length = els.length
      ∧ ∀ i (h1 : i < els.length) (h2 : i < newEls.length), Dict.get? els els[i].1 = some els[i].2 →
          ∃ datas merged, designated dir p els[i].1 = .ok datas ∧ mergeElementData datas [] = .ok merged
            ∧ newEls[i] = (els[i].1, J.obj merged) := by
  simp only [composeElemental, bind_eq_ok, pure_eq_ok, getKey_eq_ok, asObj_eq_ok] at h
  obtain ⟨el_bs, hread, _, hget, els, rfl, comps, hcomps, cmap, hcmap, newEls, hnewEls, rfl⟩ := h
  obtain ⟨hcl, hci⟩ := mapEx_ok hcomps
  obtain ⟨hnl, hni⟩ := mapEx_ok hnewEls
  refine ⟨el_bs, els, newEls, hread, hget, rfl, by simp [hnl, hcl], fun i hi1 hi2 hfirst => ?_⟩
  have hic : i < comps.length := by omega
  have hstep := hni i (by simp [hcl, hi1]) hi2
  simp only [List.getElem_zip, bind_eq_ok, pure_eq_ok] at hstep
  obtain ⟨datas, hd, merged, hm, hnew⟩ := hstep
  refine ⟨datas, merged, ?_, hm, hnew.symm⟩
  -- the specification side reads the same files; only the component lookups differ, and the table answers them
  simp only [designated, hread, bind, Except.bind, getKey, hget, asObj, hfirst, hci i hi1 hic, ← hd]
  refine mapEx_congr_mem _ _ _ fun c hc => ?_
  have hcf : c ∈ dedupStr comps.flatten :=
    (mem_dedupStr _ _).2 (List.mem_flatten.2 ⟨comps[i], List.getElem_mem _, hc⟩)
  obtain ⟨y, hy, hfind⟩ := memo_lookup (loadComponent dir) _ cmap hcmap c hcf
  rw [hy, hfind]

/-- … hence the shells and reference groups of every composed element are exactly those of its designated components,
concatenated in component order -/
theorem composeElemental_shells (dir : Dir) (p : String) (r : Dict) (h : composeElemental dir p = .ok r) :
    ∃ (els : Dict) (newEls : List (String × J)), Dict.get? r "elements" = some (.obj newEls) ∧ newEls.length = els.length
      ∧ ∀ i (h1 : i < els.length) (h2 : i < newEls.length), Dict.get? els els[i].1 = some els[i].2 →
          ∃ datas merged, designated dir p els[i].1 = .ok datas ∧ newEls[i] = (els[i].1, J.obj merged)
            ∧ listOf merged "electron_shells" = datas.flatMap (listOf · "electron_shells")
            ∧ listOf merged "references" = datas.flatMap (listOf · "references") := by
  obtain ⟨el_bs, els, newEls, _, _, hr, hl, hi⟩ := composeElemental_refines dir p r h
  refine ⟨els, newEls, by rw [hr, get?_set_same], hl, ?_⟩
  intro i h1 h2 hf
  obtain ⟨datas, merged, hd, hm, hn⟩ := hi i h1 h2 hf
  -- `listOf [] k ++ l` is `l` by evaluation
  obtain ⟨a, b⟩ := mergeElementData_spec datas [] merged hm
  exact ⟨datas, merged, hd, hn, a, b⟩

/-- **compose_table_basis = specification**: if it returns, the result is the table file with every element replaced,
in order, by that element's entry of the composed element file the table names for it, `version` taken from the file
name, `function_types` recomputed from the composed elements, the basis metadata merged over it, and the schema stamp -/
theorem composeTable_refines (dir : Dir) (p : String) (t : Dict) (h : composeTable dir p = .ok t) :
    ∃ (table els md : Dict) (newEls : List (String × J)) (v : String),
      readBasis dir p = .ok table ∧ Dict.get? table "elements" = some (.obj els)
      ∧ versionOf p = .ok v ∧ readBasis dir (metaPath p) = .ok md
      ∧ t = Dict.set (Dict.update (Dict.set (Dict.set (Dict.set table "elements" (.obj newEls)) "version" (.str v))
                "function_types" (wholeTypes newEls)) md)
              "molssi_bse_schema" (.obj [("schema_type", .str "complete"), ("schema_version", .str "0.1")])
      ∧ newEls.length = els.length
      ∧ ∀ i (h1 : i < els.length) (h2 : i < newEls.length),
          ∃ (f : String) (data dels : Dict) (val : J), els[i].2 = .str f ∧ composeElemental dir f = .ok data
            ∧ Dict.get? data "elements" = some (.obj dels) ∧ Dict.get? dels els[i].1 = some val
            ∧ newEls[i] = (els[i].1, val) := by
  simp only [composeTable, bind_eq_ok, pure_eq_ok, getKey_eq_ok, asObj_eq_ok] at h
  obtain ⟨table, hread, _, hget, els, rfl, efiles, hfiles, emap, hemap, newEls, hnewEls, v, hver, md, hmd, rfl⟩ := h
  obtain ⟨hfl, hfi⟩ := mapEx_ok hfiles
  obtain ⟨hnl, hni⟩ := mapEx_ok hnewEls
  refine ⟨table, els, md, newEls, v, hread, hget, hver, hmd, rfl, by simp [hnl, hfl], fun i hi1 hi2 => ?_⟩
  have hif : i < efiles.length := by omega
  have hstep := hni i (by simp [hfl, hi1]) hi2
  obtain ⟨data, hdata, hfind⟩ := memo_lookup (composeElemental dir) _ emap hemap efiles[i]
    ((mem_dedupStr _ _).2 (List.getElem_mem _))
  simp only [List.getElem_zip, hfind, bind_eq_ok, getKey_eq_ok, asObj_eq_ok] at hstep
  obtain ⟨_, hgd, dels, rfl, hstep⟩ := hstep
  split at hstep
  · cases hstep
  · rename_i val hv
    exact ⟨efiles[i], data, dels, val, asStr_eq_ok.1 (hfi i hi1 hif), hdata, hgd, hv, (pure_eq_ok.1 hstep).symm⟩

example : (versionOf "ahlrichs/def2-SVP.1.table.json").toOption = some "1" ∧ (versionOf "x/a.b").toOption = none := by
  decide +kernel

/-- an element of two components: `c1` brings the shells, `c2` the ECP; a second ECP is refused -/
def c1 : Dict := [("electron_shells", .arr [.str "s1", .str "s2"]), ("references", .arr [.str "r1"])]
def c2 : Dict := [("ecp_potentials", .arr [.str "p"]), ("ecp_electrons", .num "10"), ("references", .arr [.str "r2"])]
example : (mergeElementData [c1, c2] []).toOption.map (fun r => ((listOf r "electron_shells").length, (listOf r "references").length, Dict.keys r))
    = some (2, 2, ["electron_shells", "references", "ecp_potentials", "ecp_electrons"]) := by
  decide +kernel
example : (mergeElementData [c2, c2] []).toOption.isNone = true := by decide +kernel

def schemaKV : String × J := ("molssi_bse_schema", .obj [("schema_type", .str "x")])
/-- a four-file directory (table, element file, component, metadata) on which both compositions return -/
def toyDir : Dir := fun p =>
  if p = "b.0.table.json" then some (.obj [schemaKV, ("elements", .obj [("1", .str "b.0.element.json")])])
  else if p = "b.0.element.json" then some (.obj [schemaKV, ("elements", .obj [("1", .obj [("components", .arr [.str "c.0.json"])])])])
  else if p = "c.0.json" then some (.obj [schemaKV, ("description", .str "d"), ("elements", .obj [("1", .obj [("electron_shells", .arr [.str "s"]), ("references", .arr [.str "k"])])])])
  else if p = "b.metadata.json" then some (.obj [schemaKV, ("names", .arr [.str "b"])])
  else none
example : (composeElemental toyDir "b.0.element.json").toOption.isSome = true
    ∧ (composeTable toyDir "b.0.table.json").toOption.isSome = true
    ∧ ((composeTable toyDir "b.0.table.json").toOption.map Dict.keys)
        = some ["molssi_bse_schema", "elements", "version", "function_types", "names"] := by
  decide +kernel

end BSE.Props.C01
