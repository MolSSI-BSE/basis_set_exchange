import BSEModel.MemoHeap
/-! The invariant of the memoiser with mutable results: with the shape `good` the cache holds serialised copies only, each the
value of the function at every argument with that key (the form of `Props.C06.Inv`, the invariant of the value-level memoiser). -/
namespace BSE

theorem mem_of_find?_map {K V : Type} [DecidableEq K] (c : List (K × V)) (k : K) (v : V)
    (h : (c.find? (·.1 == k)).map (·.2) = some v) : (k, v) ∈ c := by
  obtain ⟨p, hf, rfl⟩ := Option.map_eq_some_iff.1 h
  have hk : p.1 = k := beq_iff_eq.1 (List.find?_some (p := fun q : K × V => q.1 == k) hf)
  exact hk ▸ List.mem_of_find?_eq_some hf

end BSE

namespace BSE.MemoHeap

variable {A K V : Type}

def Inv (key : A → Option K) (F : A → V) (s : St K V) : Prop :=
  ∀ kv ∈ s.cache, ∀ a, key a = some kv.1 → kv.2 = Stored.bytes (F a)

theorem init_inv (key : A → Option K) (F : A → V) : Inv key F (init : St K V) :=
  fun _ h => nomatch h

theorem fresh_get (s : St K V) (v : V) : (fresh s v).1.heap[(fresh s v).2]? = some v := by
  simp [fresh]

variable [DecidableEq K]

/-! `step` on a call, branch by branch of `BSEMemoize.__call__`. -/

theorem step_call_disabled (sh : Shape) (key : A → Option K) (F : A → V) (s : St K V) (a : A) (h : s.enabled = false) :
    step sh key F s (.call a) = ((fresh s (F a)).1, some (a, (fresh s (F a)).2)) := by
  simp [step, h]

theorem step_call_nokey (sh : Shape) (key : A → Option K) (F : A → V) (s : St K V) (a : A) (h : s.enabled = true)
    (hk : key a = none) : step sh key F s (.call a) = ((fresh s (F a)).1, some (a, (fresh s (F a)).2)) := by
  simp [step, h, hk]

theorem step_call_hit (sh : Shape) (key : A → Option K) (F : A → V) (s : St K V) (a : A) (k : K) (v : V) (h : s.enabled = true)
    (hk : key a = some k) (hl : lookup s.cache k = some (.bytes v)) :
    step sh key F s (.call a) = ((fresh s v).1, some (a, (fresh s v).2)) := by
  simp [step, h, hk, hl]

theorem step_call_miss_good (key : A → Option K) (F : A → V) (s : St K V) (a : A) (k : K) (h : s.enabled = true)
    (hk : key a = some k) (hl : lookup s.cache k = none) :
    step good key F s (.call a)
      = (⟨(fresh s (F a)).1.heap, (k, .bytes (F a)) :: s.cache, s.enabled⟩, some (a, (fresh s (F a)).2)) := by
  simp [step, h, hk, hl, good]

theorem step_good (key : A → Option K) (F : A → V) (hinj : ∀ a a', key a = key a' → key a ≠ none → F a = F a')
    (s : St K V) (hI : Inv key F s) (op : Op A V) :
    Inv key F (step good key F s op).1 ∧
      ∀ a o, (step good key F s op).2 = some (a, o) → (step good key F s op).1.heap[o]? = some (F a) := by
  cases op with
  | toggle => exact ⟨hI, fun a o h => nomatch h⟩
  | scribble o v => exact ⟨hI, fun a o h => nomatch h⟩
  | call a =>
    -- whichever branch `__call__` takes, a new object holding `F a` is handed over
    have hnew : ∀ a' o, some (a, (fresh s (F a)).2) = some (a', o) → (fresh s (F a)).1.heap[o]? = some (F a') :=
      fun _ _ h => by cases h; exact fresh_get s (F a)
    cases hen : s.enabled with
    | false =>
      rw [step_call_disabled good key F s a hen]
      exact ⟨hI, hnew⟩
    | true =>
      cases hk : key a with
      | none =>
        rw [step_call_nokey good key F s a hen hk]
        exact ⟨hI, hnew⟩
      | some k =>
        cases hl : lookup s.cache k with
        | some st =>
          -- a hit: by the invariant the entry is the serialised `F a`, so the stored-object branch of `step` cannot occur
          have hst : st = .bytes (F a) := hI (k, st) (mem_of_find?_map _ _ _ hl) a hk
          rw [hst] at hl
          rw [step_call_hit good key F s a k (F a) hen hk hl]
          exact ⟨hI, hnew⟩
        | none =>
          -- a miss: the new entry is right at every argument with the same key, by `hinj`
          rw [step_call_miss_good key F s a k hen hk hl]
          refine ⟨List.forall_mem_cons.2 ⟨fun a' ha' => ?_, hI⟩, hnew⟩
          rw [hinj a a' (hk.trans ha'.symm) (by rw [hk]; exact Option.some_ne_none k)]

theorem run_good (key : A → Option K) (F : A → V) (hinj : ∀ a a', key a = key a' → key a ≠ none → F a = F a')
    (ops : List (Op A V)) : ∀ (s : St K V), Inv key F s → ∀ p ∈ run good key F s ops, p.2 = some (F p.1) := by
  induction ops with
  | nil => intro s _ p hp; simp [run] at hp
  | cons op ops ih =>
    intro s hI p hp
    obtain ⟨hI', hout⟩ := step_good key F hinj s hI op
    unfold run at hp
    cases hr : (step good key F s op).2 with
    | none =>
      simp only [hr] at hp
      exact ih _ hI' p hp
    | some ao =>
      obtain ⟨a, o⟩ := ao
      simp only [hr, List.mem_cons] at hp
      rcases hp with rfl | hp
      · exact hout a o hr
      · exact ih _ hI' p hp

end BSE.MemoHeap
