import BSEModel.Compose
import BSEProofs.Lemmas.MapEx

/-! The small accessors of the store model return exactly on the shape they ask for, so
`simp only [f, bind_eq_ok, pure_eq_ok, getKey_eq_ok, asObj_eq_ok] at h` turns `h : f … = .ok r` into the chain of the
steps of `f` (`composeElemental`, `composeTable`; `componentsOf` and `entriesOf`, which also ask for arrays, are opened by
no proof); and the table that `composeElemental` / `composeTable` build by reading every file once answers like reading
the file (`memo_lookup`). -/

namespace BSE
namespace Compose

theorem getKey_eq_ok {d : Dict} {k : String} {v : J} : getKey d k = .ok v ↔ Dict.get? d k = some v := by
  unfold getKey; split <;> simp [*]

theorem asObj_eq_ok {j : J} {d : Dict} : asObj j = .ok d ↔ j = .obj d := by cases j <;> simp [asObj]

theorem asStr_eq_ok {j : J} {s : String} : asStr j = .ok s ↔ j = .str s := by cases j <;> simp [asStr]

theorem mem_dedupStr (l : List String) (x : String) : x ∈ dedupStr l ↔ x ∈ l := by
  induction l with
  | nil => simp [dedupStr]
  | cons a as ih =>
    by_cases hx : x = a <;> simp [dedupStr, List.mem_filter, ih, hx]

theorem memo_lookup {β : Type} (g : String → Except PyErr β) (files : List String) (tbl : List (String × β))
    (h : mapEx (fun f => do let c ← g f; pure (f, c)) files = .ok tbl) (c : String) (hc : c ∈ files) :
    ∃ y, g c = .ok y ∧ (tbl.find? (·.1 == c)).map (·.2) = some y := by
  induction files generalizing tbl with
  | nil => cases hc
  | cons f fs ih =>
    obtain ⟨p, rest, hp, hrest, rfl⟩ := mapEx_cons_eq_ok.1 h
    obtain ⟨y, hy, hp⟩ := bind_eq_ok.1 hp
    cases hp
    by_cases hfc : f = c
    · subst hfc
      exact ⟨y, hy, by simp⟩
    · obtain ⟨y', hy', hfind⟩ := ih rest hrest ((List.mem_cons.1 hc).resolve_left (Ne.symm hfc))
      exact ⟨y', hy', by simpa [List.find?_cons, hfc] using hfind⟩

end Compose
end BSE
