import BSEModel.Notation
import BSEProofs.Lemmas.MapEx
/-! # `expand_elements` reads back what `compact_elements` wrote — the text layer

The string `compact_elements` produces is a comma-separated list of *tokens*, each a symbol or `symbol-symbol`.  Such a string
belongs to a small grammar (`Wf`: words separated by single `,` or `-`, never two `-` without a `,` between).  On every string
of that grammar each normalisation step of `expand_elements` is the identity and each malformed-pattern test passes
(`expandStr_wf`); the split at the commas gives the tokens back, and every token expands to its range. -/
namespace BSE.Notation

structure Word (w : Str) : Prop where
  ne : w ≠ []
  plain : ∀ c ∈ w, c ≠ ',' ∧ c ≠ '-' ∧ isPySpace c = false ∧ isWord c = true

inductive Tok
  | one (w : Str)
  | range (w v : Str)

def Tok.str : Tok → Str
  | .one w => w
  | .range w v => w ++ '-' :: v

def Tok.OK : Tok → Prop
  | .one w => Word w
  | .range w v => Word w ∧ Word v

/-- `','.join(tokens)` -/
def joinToks : List Tok → Str
  | [] => []
  | [t] => t.str
  | t :: rest => t.str ++ ',' :: joinToks rest

theorem joinToks_cons (t u : Tok) (rest : List Tok) : joinToks (t :: u :: rest) = t.str ++ ',' :: joinToks (u :: rest) := rfl

theorem splitOnChar_plain (c : Char) (w : Str) (h : ∀ x ∈ w, x ≠ c) : splitOnChar c w = [w] := by
  induction w with
  | nil => rfl
  | cons x xs ih =>
    have hx : x ≠ c := h x (by simp)
    simp only [splitOnChar, hx, if_false, ih (fun y hy => h y (by simp [hy]))]

theorem splitOnChar_append (c : Char) (w rest : Str) (h : ∀ x ∈ w, x ≠ c) :
    splitOnChar c (w ++ c :: rest) = w :: splitOnChar c rest := by
  induction w with
  | nil => simp [splitOnChar]
  | cons x xs ih =>
    have hx : x ≠ c := h x (by simp)
    simp only [List.cons_append, splitOnChar, hx, if_false, ih (fun y hy => h y (by simp [hy]))]

theorem tok_no_comma (t : Tok) (ok : t.OK) : ∀ c ∈ t.str, c ≠ ',' := by
  intro c hc
  cases t with
  | one w => exact (ok.plain c hc).1
  | range w v =>
    simp only [Tok.str, List.mem_append, List.mem_cons] at hc
    rcases hc with h | rfl | h
    · exact (ok.1.plain c h).1
    · decide
    · exact (ok.2.plain c h).1

theorem split_joinToks (t : Tok) (ts : List Tok) (ok : ∀ u ∈ t :: ts, u.OK) :
    splitOnChar ',' (joinToks (t :: ts)) = (t :: ts).map Tok.str := by
  induction ts generalizing t with
  | nil => exact splitOnChar_plain ',' _ (tok_no_comma t (ok t (by simp)))
  | cons u us ih =>
    rw [joinToks_cons, splitOnChar_append ',' _ _ (tok_no_comma t (ok t (by simp))), ih u fun x hx => ok x (by simp [hx])]
    rfl

def plainC (c : Char) : Prop := c ≠ ',' ∧ c ≠ '-'

/-- The grammar of the notation, read from left to right: words of plain characters, separated by single `,` or `-`, with
no second `-` before the next `,`.  `inW`: the character before belongs to a word; `dash`: this token may still take a `-`. -/
inductive Wf : Bool → Bool → Str → Prop
  | nil {dash : Bool} : Wf true dash []
  | comma {dash : Bool} {s : Str} : Wf false true s → Wf true dash (',' :: s)
  | dash {s : Str} : Wf false false s → Wf true true ('-' :: s)
  | char {inW dash : Bool} {c : Char} {s : Str} : plainC c → isPySpace c = false → Wf true dash s → Wf inW dash (c :: s)

theorem wf_append {w : Str} (hw : ∀ c ∈ w, c ≠ ',' ∧ c ≠ '-' ∧ isPySpace c = false ∧ isWord c = true) {d : Bool} {rest : Str}
    (h : Wf true d rest) (inW : Bool) (hne : w ≠ [] ∨ inW = true) : Wf inW d (w ++ rest) := by
  induction w generalizing inW with
  | nil =>
    rcases hne with h0 | rfl
    · exact absurd rfl h0
    · exact h
  | cons c r ih =>
    obtain ⟨h1, h2, h3, _⟩ := hw c (by simp)
    exact .char ⟨h1, h2⟩ h3 (ih (fun x hx => hw x (by simp [hx])) true (Or.inr rfl))

theorem wf_tok (t : Tok) (ok : t.OK) {rest : Str} (h : ∀ d, Wf true d rest) : Wf false true (t.str ++ rest) := by
  cases t with
  | one w => exact wf_append ok.plain (h true) false (Or.inl ok.ne)
  | range w v =>
    have hv : Wf true true ('-' :: (v ++ rest)) := .dash (wf_append ok.2.plain (h false) false (Or.inl ok.2.ne))
    simpa [Tok.str] using wf_append ok.1.plain hv false (Or.inl ok.1.ne)

theorem wf_joinToks (t : Tok) (ts : List Tok) (ok : ∀ u ∈ t :: ts, u.OK) : Wf false true (joinToks (t :: ts)) := by
  induction ts generalizing t with
  | nil => simpa [joinToks] using wf_tok t (ok t (by simp)) (rest := []) (fun _ => .nil)
  | cons u us ih => exact wf_tok t (ok t (by simp)) fun _ => .comma (ih u fun x hx => ok x (by simp [hx]))

theorem wf_head {d : Bool} {s : Str} (h : Wf false d s) : ∃ c r, s = c :: r ∧ plainC c := by
  cases h with
  | char hc => exact ⟨_, _, rfl, hc⟩

/-- `p` is the character in front of `s` -/
theorem wf_last {inW d : Bool} {s : Str} (h : Wf inW d s) :
    ∀ p, (inW = true → plainC p) → ∃ c, (p :: s).getLast? = some c ∧ plainC c := by
  induction h with
  | nil => exact fun p hp => ⟨p, rfl, hp rfl⟩
  | comma _ ih =>
    intro _ _
    rw [List.getLast?_cons_cons]
    exact ih ',' nofun
  | dash _ ih =>
    intro _ _
    rw [List.getLast?_cons_cons]
    exact ih '-' nofun
  | char hc _ _ ih =>
    intro _ _
    rw [List.getLast?_cons_cons]
    exact ih _ fun _ => hc

theorem wf_nospace {inW d : Bool} {s : Str} (h : Wf inW d s) : ∀ c ∈ s, isPySpace c = false := by
  induction h with
  | nil => nofun
  | comma _ ih => exact List.forall_mem_cons.2 ⟨by decide, ih⟩
  | dash _ ih => exact List.forall_mem_cons.2 ⟨by decide, ih⟩
  | char _ hs _ ih => exact List.forall_mem_cons.2 ⟨hs, ih⟩

theorem squeezeAux_wf {c : Char} (hc : ¬ plainC c) {s : Str} {prev inW d : Bool} (h : Wf inW d s) (hp : prev = true → inW = false) :
    squeezeAux c prev s = s := by
  induction h generalizing prev with
  | nil => rfl
  | comma _ ih | dash _ ih =>
    -- a separator stands behind a word, so not behind `c`: it is kept, and what follows it starts a word
    cases prev with
    | true => cases hp rfl
    | false => simp only [squeezeAux, Bool.false_eq_true, if_false, ih fun _ => rfl, ite_self]
  | @char _ _ x _ hx _ _ ih =>
    have hne : x ≠ c := fun e => hc (e ▸ hx)
    simp only [squeezeAux, hne, if_false, ih (prev := false) nofun]

theorem isSubseq_wf {a b : Char} (ha : ¬ plainC a) (hb : ¬ plainC b) {s : Str} {inW d : Bool} (h : Wf inW d s) :
    isSubseq [a, b] s = false := by
  have sep : ∀ {x d s}, Wf false d s → [a, b].isPrefixOf (x :: s) = false := fun h' => by
    obtain ⟨y, r, rfl, hy⟩ := wf_head h'
    have : (b == y) = false := beq_false_of_ne fun e => hb (e ▸ hy)
    simp [List.isPrefixOf, this]
  induction h with
  | nil => rfl
  | comma h' ih | dash h' ih => simp only [isSubseq, ih, sep h', Bool.or_false]
  | @char _ _ x _ hx _ _ ih =>
    have : (a == x) = false := beq_false_of_ne fun e => ha (e ▸ hx)
    simp only [isSubseq, ih, List.isPrefixOf, this, Bool.false_and, Bool.or_false]

/-- between two `-` there is a `,`: of the parts between the dashes, every one but the last (and, once the token has had
its dash, the first) holds a comma -/
theorem split_dash_wf {s : Str} {inW d : Bool} (h : Wf inW d s) :
    ∃ p ps, splitOnChar '-' s = p :: ps ∧ (d = false → ps ≠ [] → ',' ∈ p) ∧ ∀ b ∈ ps.dropLast, ',' ∈ b := by
  induction h with
  | nil => exact ⟨[], [], rfl, fun _ h => absurd rfl h, nofun⟩
  | comma _ ih =>
    obtain ⟨p, ps, e, _, h2⟩ := ih
    exact ⟨',' :: p, ps, by simp [splitOnChar, e], fun _ _ => by simp, h2⟩
  | dash _ ih =>
    obtain ⟨p, ps, e, h1, h2⟩ := ih
    refine ⟨[], p :: ps, by simp [splitOnChar, e], nofun, ?_⟩
    cases ps with
    | nil => nofun
    | cons q qs => exact List.forall_mem_cons.2 ⟨h1 rfl (by simp), h2⟩
  | @char _ _ x _ hx _ _ ih =>
    obtain ⟨p, ps, e, h1, h2⟩ := ih
    exact ⟨x :: p, ps, by simp [splitOnChar, hx.2, e], fun hf hne => List.mem_cons_of_mem _ (h1 hf hne), h2⟩

theorem chained_go_false (a : Str) : ∀ (ps : List Str), (∀ b ∈ ps.dropLast, ',' ∈ b) → chained.go (a :: ps) = false := by
  intro ps
  induction ps generalizing a with
  | nil => intro _; rfl
  | cons b rest ih =>
    intro h
    cases rest with
    | nil => rfl
    | cons c rest' =>
      have hall : b.all isWord = false := List.all_eq_false.2 ⟨',', h b (by simp), by decide⟩
      simp [chained.go, hall, ih b (fun x hx => h x (by simp [hx]))]

theorem chained_wf {s : Str} {inW d : Bool} (h : Wf inW d s) : chained s = false := by
  obtain ⟨p, ps, e, _, h2⟩ := split_dash_wf h
  unfold chained
  rw [e]
  exact chained_go_false p ps h2

theorem stripChar_id (c : Char) (s : Str) (x y : Char) (hh : s.head? = some x) (hx : x ≠ c) (hl : s.getLast? = some y) (hy : y ≠ c) :
    stripChar c s = s := by
  have dw : ∀ (l : Str) (z : Char), l.head? = some z → z ≠ c → l.dropWhile (· = c) = l := by
    intro l z hz hne
    cases l with
    | nil => rfl
    | cons a as => cases hz; simp [List.dropWhile, hne]
  unfold stripChar
  rw [dw s x hh hx, dw s.reverse y (by rw [List.head?_reverse]; exact hl) hy, List.reverse_reverse]

theorem expandStr_wf {s : Str} (h : Wf false true s) :
    expandStr s = (mapExcept expandOne (splitOnChar ',' s)).map List.flatten := by
  have nc : ¬ plainC ',' := fun h => h.1 rfl
  have nd : ¬ plainC '-' := fun h => h.2 rfl
  have e1 : squeeze ',' s = s := squeezeAux_wf nc h nofun
  have e2 : squeeze '-' s = s := squeezeAux_wf nd h nofun
  have e3 : s.filter (fun c => !isPySpace c) = s := List.filter_eq_self.2 fun c hc => by simp [wf_nospace h c hc]
  have e4 := isSubseq_wf nd nc h
  have e5 := isSubseq_wf nc nd h
  have e6 := chained_wf h
  -- the string starts with a plain character `c0` and ends with one, `cl`
  cases h with
  | @char _ _ c0 _ hc0 _ h' =>
    obtain ⟨cl, hl, hcl⟩ := wf_last h' c0 fun _ => hc0
    have e7 : (some c0 == some '-') = false := by simpa using hc0.2
    have e8 : (some cl == some '-') = false := by simpa using hcl.2
    unfold expandStr
    simp only [e1, e2, e3, stripChar_id ',' _ c0 cl rfl hc0.1 hl hcl.1, List.isEmpty_cons, e4, e5, List.head?_cons, hl, e7, e8, e6,
      Bool.false_eq_true, if_false, Bool.or_self]

theorem expandStr_joinToks (ts : List Tok) (ok : ∀ t ∈ ts, t.OK) :
    expandStr (joinToks ts) = (mapExcept expandOne (ts.map Tok.str)).map List.flatten := by
  cases ts with
  | nil => rfl
  | cons t ts => rw [expandStr_wf (wf_joinToks t ts ok), split_joinToks t ts ok]

theorem tok_head_plain (t : Tok) (ok : t.OK) : ∃ c r, t.str = c :: r ∧ plainC c :=
  wf_head (wf_joinToks t [] (by simpa using ok))

theorem word_no_dash (w : Str) (hw : Word w) : ∀ x ∈ w, x ≠ '-' := fun x hx => (hw.plain x hx).2.1

theorem expandOne_one (w : Str) (hw : Word w) : expandOne w = (zFromStr w).map ([·]) := by
  unfold expandOne
  have hnot : ¬ '-' ∈ w := fun h => word_no_dash w hw '-' h rfl
  have : w.contains '-' = false := by simpa using hnot
  simp only [this, Bool.not_false, if_true]

theorem expandOne_range (w v : Str) (hw : Word w) (hv : Word v) :
    expandOne (w ++ '-' :: v) = (do let b ← zFromStr w; let e ← zFromStr v; pure (List.range' b (e + 1 - b))) := by
  unfold expandOne
  rw [splitOnChar_append '-' w v (word_no_dash w hw), splitOnChar_plain '-' v (word_no_dash v hv)]
  simp

def wordB (w : Str) : Bool :=
  !w.isEmpty && w.all (fun c => c != ',' && c != '-' && !isPySpace c && isWord c)

theorem word_of_wordB (w : Str) (h : wordB w = true) : Word w := by
  unfold wordB at h
  simp only [Bool.and_eq_true, Bool.not_eq_true', List.all_eq_true, bne_iff_ne, ne_eq] at h
  refine ⟨by intro h0; rw [h0] at h; simp at h, ?_⟩
  intro c hc
  obtain ⟨⟨⟨h1, h2⟩, h3⟩, h4⟩ := h.2 c hc
  exact ⟨h1, h2, h3, h4⟩

/-- the symbol `compact_elements` prints for Z -/
def symOf (z : Nat) : Str := (symFromZNorm z).getD []

def KnownZ (z : Nat) : Prop := symFromZNorm z = some (symOf z) ∧ Word (symOf z) ∧ zFromStr (symOf z) = .ok z

def pieceToks : Piece → List Tok
  | .one a => [.one (symOf a)]
  | .two a b => [.one (symOf a), .one (symOf b)]
  | .range a b => [.range (symOf a) (symOf b)]

def PieceKnown : Piece → Prop
  | .one a => KnownZ a
  | .two a b => KnownZ a ∧ KnownZ b
  | .range a b => KnownZ a ∧ KnownZ b

theorem renderPiece_toks (p : Piece) (h : PieceKnown p) : renderPiece p = some (joinToks (pieceToks p)) := by
  cases p with
  | one a => simp [renderPiece, pieceToks, joinToks, Tok.str, h.1]
  | two a b => simp [renderPiece, pieceToks, joinToks, Tok.str, h.1.1, h.2.1]
  | range a b => simp [renderPiece, pieceToks, joinToks, Tok.str, h.1.1, h.2.1]

theorem pieceToks_ok (p : Piece) (h : PieceKnown p) : (∀ t ∈ pieceToks p, t.OK) ∧ pieceToks p ≠ [] := by
  cases p with
  | one a => exact ⟨List.forall_mem_singleton.2 h.2.1, List.cons_ne_nil _ _⟩
  | two a b => exact ⟨List.forall_mem_cons.2 ⟨h.1.2.1, List.forall_mem_singleton.2 h.2.2.1⟩, List.cons_ne_nil _ _⟩
  | range a b => exact ⟨List.forall_mem_singleton.2 ⟨h.1.2.1, h.2.2.1⟩, List.cons_ne_nil _ _⟩

theorem joinToks_append (a b : List Tok) (ha : a ≠ []) (hb : b ≠ []) : joinToks (a ++ b) = joinToks a ++ ',' :: joinToks b := by
  induction a with
  | nil => exact absurd rfl ha
  | cons t rest ih =>
    cases rest with
    | nil =>
      cases b with
      | nil => exact absurd rfl hb
      | cons u us => rfl
    | cons u us =>
      have := ih (by simp)
      simp only [List.cons_append] at this ⊢
      rw [joinToks_cons, this, joinToks_cons]
      simp

theorem intercalate_joinToks (Ls : List (List Tok)) (hne : ∀ L ∈ Ls, L ≠ []) :
    [','].intercalate (Ls.map joinToks) = joinToks Ls.flatten := by
  induction Ls with
  | nil => rfl
  | cons L rest ih =>
    cases rest with
    | nil => simp
    | cons M Ms =>
      rw [List.map_cons, List.map_cons, List.intercalate_cons_cons, ← List.map_cons, ih fun x hx => hne x (by simp [hx]), List.append_assoc]
      exact (joinToks_append L _ (hne L (by simp)) (List.flatten_ne_nil_iff.2 ⟨M, List.mem_cons_self, hne M (by simp)⟩)).symm

theorem mapM_render (ps : List Piece) (h : ∀ p ∈ ps, PieceKnown p) :
    ps.mapM renderPiece = some (ps.map fun p => joinToks (pieceToks p)) := by
  induction ps with
  | nil => rfl
  | cons p rest ih =>
    rw [List.mapM_cons, renderPiece_toks p (h p (by simp)), ih (fun q hq => h q (by simp [hq]))]
    rfl

theorem compactElements_text (l : List Nat) (h : ∀ p ∈ compactPieces (sortDedup l), PieceKnown p) :
    compactElements l = some (joinToks ((compactPieces (sortDedup l)).flatMap pieceToks)) := by
  unfold compactElements
  rw [mapM_render _ h]
  simp only [Option.map_some]
  congr 1
  have := intercalate_joinToks ((compactPieces (sortDedup l)).map pieceToks)
    (by intro L hL; obtain ⟨p, hp, rfl⟩ := List.mem_map.1 hL; exact (pieceToks_ok p (h p hp)).2)
  rw [List.map_map] at this
  rw [List.flatMap_def]
  exact this

theorem mapExcept_eq {α β ε : Type} (f : α → Except ε β) (l : List α) : mapExcept f l = mapEx f l := by
  induction l with
  | nil => rfl
  | cons a as ih => simp only [mapExcept, mapEx, ih]; rfl

theorem expand_piece (p : Piece) (h : PieceKnown p) :
    ∃ r, mapExcept expandOne ((pieceToks p).map Tok.str) = .ok r ∧ r.flatten = expandPiece p := by
  cases p with
  | one a =>
    refine ⟨[[a]], ?_, rfl⟩
    simp [pieceToks, Tok.str, mapExcept, expandOne_one _ h.2.1, h.2.2, Except.map]
  | two a b =>
    refine ⟨[[a], [b]], ?_, rfl⟩
    simp [pieceToks, Tok.str, mapExcept, expandOne_one _ h.1.2.1, expandOne_one _ h.2.2.1, h.1.2.2, h.2.2.2, Except.map]
  | range a b =>
    refine ⟨[List.range' a (b + 1 - a)], ?_, by simp [expandPiece]⟩
    simp only [pieceToks, Tok.str, List.map_cons, List.map_nil, mapExcept, expandOne_range _ _ h.1.2.1 h.2.2.1, h.1.2.2, h.2.2.2]
    rfl

theorem expand_pieces (ps : List Piece) (h : ∀ p ∈ ps, PieceKnown p) :
    ∃ r, mapExcept expandOne ((ps.flatMap pieceToks).map Tok.str) = .ok r ∧ r.flatten = expandPieces ps := by
  induction ps with
  | nil => exact ⟨[], rfl, rfl⟩
  | cons p rest ih =>
    obtain ⟨r1, h1, e1⟩ := expand_piece p (h p (by simp))
    obtain ⟨r2, h2, e2⟩ := ih (fun q hq => h q (by simp [hq]))
    refine ⟨r1 ++ r2, ?_, ?_⟩
    · rw [mapExcept_eq] at h1 h2 ⊢
      rw [List.flatMap_cons, List.map_append]
      exact mapEx_append h1 h2
    · simp [List.flatten_append, e1, e2, expandPieces]

theorem expandStr_pieces (ps : List Piece) (h : ∀ p ∈ ps, PieceKnown p) :
    expandStr (joinToks (ps.flatMap pieceToks)) = .ok (expandPieces ps) := by
  have hok : ∀ t ∈ ps.flatMap pieceToks, t.OK := fun t ht => by
    obtain ⟨p, hp, htp⟩ := List.mem_flatMap.1 ht
    exact (pieceToks_ok p (h p hp)).1 t htp
  obtain ⟨r, hr, hflat⟩ := expand_pieces ps h
  rw [expandStr_joinToks _ hok, hr]
  exact congrArg Except.ok hflat

theorem runsAux_members : ∀ (xs : List Nat) (s e : Nat), ∀ r ∈ runsAux s e xs, r.1 ∈ s :: xs ∧ r.2 ∈ e :: xs
  | [], s, e, r, hr => by rw [List.mem_singleton.1 hr]; simp
  | x :: rest, s, e, r, hr => by
    simp only [List.mem_cons]
    unfold runsAux at hr
    split at hr
    · have := runsAux_members rest s x r hr
      simp only [List.mem_cons] at this
      exact ⟨this.1.imp_right .inr, .inr this.2⟩
    · rcases List.mem_cons.1 hr with rfl | hr'
      · exact ⟨.inl rfl, .inl rfl⟩
      · have := runsAux_members rest x x r hr'
        simp only [List.mem_cons] at this
        exact ⟨.inr this.1, .inr this.2⟩

theorem pieces_known (xs : List Nat) (h : ∀ z ∈ xs, KnownZ z) : ∀ p ∈ compactPieces xs, PieceKnown p := by
  intro p hp
  obtain ⟨r, hr, rfl⟩ := List.mem_map.1 hp
  obtain ⟨h1, h2⟩ : r.1 ∈ xs ∧ r.2 ∈ xs := by
    cases xs with
    | nil => cases hr
    | cons x rest => exact runsAux_members rest x x r hr
  unfold pieceOf
  split
  · exact h _ h1
  · split <;> exact ⟨h _ h1, h _ h2⟩

end BSE.Notation
