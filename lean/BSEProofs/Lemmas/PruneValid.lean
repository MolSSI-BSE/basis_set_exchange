import BSEProofs.Lemmas.PruneFull
import BSEProofs.Props.C18

/-! # What `prune_shell` needs and what it hands out

`Prepared`: semantically well-formed (`SemWF`), the right spherical/cartesian tag, positive exponents, one column per
member if fused.  `pruneShell_valid`: a prepared shell comes out of `prune_shell` satisfying **every** rule of
`_validate_electron_shells` except possibly "no duplicate contraction" (which merging equal exponents can create); with
a single contraction that rule is vacuous, which gives full validity of everything `uncontract_general` returns.
`pruneShell_id_of_valid`: on a valid shell `prune_shell` does nothing. -/

namespace BSE
open BSE.Props.C18
variable {ν : Type}

/-- what `prune_shell` needs in order to hand out a valid shell: non-zero rectangular columns, the right
spherical/cartesian tag, positive exponents, one column per member if fused -/
structure Prepared (val : ν → Rat) (sh : Shell ν) : Prop where
  wf : SemWF val sh
  tagH : sh.am.foldl max 0 > 1 → (sh.ftype = "gto_spherical" ∨ sh.ftype = "gto_cartesian")
  tagL : ¬ sh.am.foldl max 0 > 1 → ¬ (strInfix "spherical" sh.ftype = true ∨ strInfix "cartesian" sh.ftype = true)
  pos : ∀ e ∈ sh.exps, val e > 0
  fused : sh.am.length > 1 → sh.coefs.length = sh.am.length

theorem validShell_semWF (val : ν → Rat) (sh : Shell ν) (v : ValidShell val sh) (hne : sh.coefs ≠ []) : SemWF val sh := by
  have hd : sh.exps.Pairwise (fun a b => val a ≠ val b) := List.pairwise_map.1 v.distinct
  refine ⟨v.am_nonempty, fun c hc => (v.columns c hc).1, hne, ?_⟩
  intro c hc
  obtain ⟨hl, e, he, hne0⟩ := v.columns c hc
  obtain ⟨i, hi, rfl⟩ := List.mem_iff_getElem.1 he
  have hi' : i < sh.exps.length := by omega
  exact ⟨val sh.exps[i], by rw [colFn_at_distinct val sh.exps c hd i hi' hi]; exact hne0⟩

theorem prepared_of_valid (val : ν → Rat) (sh : Shell ν) (v : ValidShell val sh) (hne : sh.coefs ≠ []) : Prepared val sh :=
  ⟨validShell_semWF val sh v hne, v.tag_high, v.tag_low, List.forall_mem_map.1 v.positive, v.fused⟩

theorem pruneShell_valid (val : ν → Rat) (sh sh' : Shell ν) (p : Prepared val sh) (h : pruneShell val sh = .ok sh')
    (hdup : sh'.am.length = 1 → (sh'.coefs.map (·.map val)).Nodup) :
    ValidShell val sh' := by
  have hw' := semWF_pruneShell val sh sh' p.wf h
  have hne := pruneShell_survives val sh sh' p.wf h
  have hlen := pruneShell_ncols_wf val sh sh' p.wf h
  obtain ⟨kept, rfl, hk, hdist, hR⟩ := pruneShell_kept val sh sh' h
  refine {
    am_nonempty := hw'.am_ne
    has_primitive := fun h0 => hne (List.eq_nil_of_length_eq_zero h0)
    tag_high := p.tagH
    tag_low := p.tagL
    distinct := List.pairwise_map.2 hdist
    positive := List.forall_mem_map.2 (List.forall_mem_map.2 fun q hq => p.pos _ (hk q hq).2)
    columns := fun g hg => ⟨hw'.rect g hg, hw'.col_ne_zero g hg⟩
    no_dup_column := hdup
    no_unused := fun r hr => ?_
    fused := fun hl => hlen.trans (p.fused hl) }
  -- the rows of the stored columns are the kept rows again
  rw [rowsOf, zipStar_involutive (by simpa using hne) (hR p.wf.rect p.wf.cols_ne).1
    (List.length_pos_iff.2 p.wf.cols_ne)] at hr
  obtain ⟨q, hq, rfl⟩ := List.mem_map.1 hr
  exact (notAllZero_iff val q).1 (hk q hq).1

theorem groupRows_distinct_singletons (val : ν → Rat) (ps : List (ν × List ν))
    (hd : (ps.map (·.1)).Pairwise (fun a b => val a ≠ val b)) :
    groupRows val ps = ps.map fun p => (p.1, [p.2]) := by
  suffices h : ∀ acc : List (ν × List (List ν)), (∀ g ∈ acc, ∀ p ∈ ps, val p.1 ≠ val g.1) →
      ps.foldl (fun gs p => insertGroup val p.1 p.2 gs) acc = acc ++ ps.map fun p => (p.1, [p.2]) from
    h [] fun _ h => nomatch h
  induction ps with
  | nil => intro acc _; simp
  | cons q qs ih =>
    intro acc hacc
    obtain ⟨hq, hqs⟩ := List.pairwise_cons.1 hd
    rcases insertGroup_cases val q.1 q.2 acc with ⟨l, e0, rows, r, rfl, he, _⟩ | ⟨_, hi⟩
    · exact absurd he (hacc (e0, rows) (by simp) q (by simp))
    · rw [List.foldl_cons, hi, ih hqs _ fun g hg p hp => ?_]
      · simp
      · rcases List.mem_append.1 hg with hg | hg
        · exact hacc g hg p (by simp [hp])
        · rw [List.mem_singleton.1 hg]
          exact (hq p.1 (List.mem_map_of_mem hp)).symm

theorem mapE_collapseG_singletons (val : ν → Rat) (ps : List (ν × List ν)) :
    mapE (collapseG val) (ps.map fun p => (p.1, [p.2])) = .ok ps := by
  induction ps with
  | nil => rfl
  | cons p ps ih =>
    simp only [List.map_cons, mapE, collapseG, collapse, ih]

/-- distinct exponents: nothing to merge; no unused primitive: nothing to drop -/
theorem pruneShell_id_of_valid (val : ν → Rat) (sh : Shell ν) (v : ValidShell val sh) (hne : sh.coefs ≠ []) :
    pruneShell val sh = .ok sh := by
  have hrect : Rect sh.exps.length sh.coefs := fun c hc => (v.columns c hc).1
  have hpos : 0 < sh.exps.length := Nat.pos_of_ne_zero v.has_primitive
  obtain ⟨hlen, hrowrect⟩ := zipStar_shape hne hrect
  have hd : sh.exps.Pairwise (fun a b => val a ≠ val b) := List.pairwise_map.1 v.distinct
  have hfst : (sh.exps.zip (zipStar sh.coefs)).map (·.1) = sh.exps := by
    rw [List.map_fst_zip]; omega
  have hsnd : (sh.exps.zip (zipStar sh.coefs)).map (·.2) = zipStar sh.coefs := by
    rw [List.map_snd_zip]; omega
  unfold pruneShell
  simp only
  rw [if_neg (by omega), groupRows_distinct_singletons val _ (by rw [hfst]; exact hd), mapE_collapseG_singletons]
  simp only
  have hall : (sh.exps.zip (zipStar sh.coefs)).filter (notAllZero val) = sh.exps.zip (zipStar sh.coefs) := by
    apply List.filter_eq_self.2
    intro p hp
    exact (notAllZero_iff val p).2 (v.no_unused p.2 (List.of_mem_zip hp).2)
  rw [hall, hfst, hsnd, zipStar_involutive hne hrect hpos]

end BSE
