import BSEModel.Header

/-! # Lines

What `str.splitlines(True)` returns is the one cutting of the text into lines (`Lines`): closed lines, each a run of non-break
characters and a terminator, and possibly an open one at the end.  Two directions, `lines_splitAux` and `splitAux_lines`,
say so; that every line of the comment block is a header line behind the marker, and that a text ending with a line feed is
split independently of what follows, are then statements about cuttings. -/

namespace BSE.Header

def NoBreak (s : Str) : Prop := ∀ c ∈ s, isBreak c = false

/-- `l` is a line with its terminator, given the text `X` that follows: a break character (a `\r` only if no `\n` follows)
or `\r\n`, behind characters that are no breaks -/
def Closed (l X : Str) : Prop :=
  ∃ w, NoBreak w ∧ ((∃ b, isBreak b = true ∧ (b = '\r' → ∀ r, X ≠ '\n' :: r) ∧ l = w ++ [b]) ∨ l = w ++ ['\r', '\n'])

theorem splitAux_nobreak (w s cur : Str) (hw : NoBreak w) : splitAux (w ++ s) cur = splitAux s (w.reverse ++ cur) := by
  induction w generalizing cur with
  | nil => simp
  | cons c cs ih =>
    have hc : isBreak c = false := hw c (by simp)
    have hcr : c ≠ '\r' := by intro h; rw [h] at hc; simp [isBreak] at hc
    have : splitAux (c :: (cs ++ s)) cur = splitAux (cs ++ s) (c :: cur) := by
      rw [splitAux]
      · simp [hc]
      · intro rest h1; exact absurd h1 hcr
    simp only [List.cons_append, this, ih (c :: cur) (fun x hx => hw x (by simp [hx]))]
    simp

theorem splitAux_closed {l X : Str} (h : Closed l X) : splitAux (l ++ X) [] = l :: splitAux X [] := by
  obtain ⟨w, hw, ⟨b, hb, hX, rfl⟩ | rfl⟩ := h
  · rw [List.append_assoc, splitAux_nobreak w _ [] hw, List.singleton_append, splitAux]
    · simp [hb]
    · intro rest h1 h2; exact hX h1 rest h2
  · rw [List.append_assoc, splitAux_nobreak w _ [] hw]
    simp [splitAux]

inductive Lines : List Str → Prop
  | nil : Lines []
  | last (w : Str) : NoBreak w → w ≠ [] → Lines [w]
  | cons (l : Str) (ls : List Str) : Closed l ls.flatten → Lines ls → Lines (l :: ls)

theorem splitAux_lines {ls : List Str} (h : Lines ls) : splitAux ls.flatten [] = ls := by
  induction h with
  | nil => rfl
  | last w hw hne =>
    have := splitAux_nobreak w [] [] hw
    simp only [List.append_nil] at this
    simp [this, splitAux, hne]
  | cons l ls hl _ ih => rw [List.flatten_cons, splitAux_closed hl, ih]

theorem lines_splitAux (h cur : Str) (hcur : NoBreak cur) :
    Lines (splitAux h cur) ∧ (splitAux h cur).flatten = cur.reverse ++ h := by
  have hrev : NoBreak cur.reverse := fun x hx => hcur x (List.mem_reverse.1 hx)
  fun_induction splitAux h cur with
  | case1 cur hc => simp_all [Lines.nil]
  | case2 cur hc => exact ⟨.last _ hrev (by simpa using hc), by simp⟩
  | case3 rest cur ih =>
    obtain ⟨h1, h2⟩ := ih (fun x hx => by cases hx) (fun x hx => by cases hx)
    exact ⟨.cons _ _ ⟨_, hrev, Or.inr rfl⟩ h1, by simp [h2]⟩
  | case4 c rest cur hnot hb ih =>
    obtain ⟨h1, h2⟩ := ih (fun x hx => by cases hx) (fun x hx => by cases hx)
    refine ⟨.cons _ _ ⟨_, hrev, Or.inl ⟨c, hb, ?_, rfl⟩⟩ h1, by simp [h2]⟩
    intro hc r hr
    rw [h2] at hr
    exact hnot r hc hr
  | case5 c rest cur hnot hb ih =>
    have hc : NoBreak (c :: cur) := fun x hx => by
      rcases List.mem_cons.1 hx with rfl | hx
      · simpa using hb
      · exact hcur x hx
    obtain ⟨h1, h2⟩ := ih hc (fun x hx => hc x (List.mem_reverse.1 hx))
    exact ⟨h1, by simp [h2]⟩

theorem NoBreak.append {a b : Str} (ha : NoBreak a) (hb : NoBreak b) : NoBreak (a ++ b) :=
  fun x hx => (List.mem_append.1 hx).elim (ha x) (hb x)

theorem Lines.prefixed {c : Str} (hc : NoBreak c) (hcne : c ≠ []) {ls : List Str} (h : Lines ls) : Lines (ls.map (c ++ ·)) := by
  induction h with
  | nil => exact .nil
  | last w hw hne => exact .last _ (hc.append hw) (by simp [hne])
  | cons l ls hl _ ih =>
    refine .cons _ _ ?_ ih
    obtain ⟨w, hw, ⟨b, hb, _, rfl⟩ | rfl⟩ := hl
    · refine ⟨c ++ w, hc.append hw, Or.inl ⟨b, hb, fun _ r hr => ?_, by simp⟩⟩
      -- what follows is empty or starts with the marker, which starts with no `\n`
      cases ls with
      | nil => cases hr
      | cons l' ls' =>
        cases c with
        | nil => exact hcne rfl
        | cons c0 cs =>
          simp only [List.map_cons, List.flatten_cons, List.cons_append, List.cons.injEq] at hr
          have := hc c0 (by simp)
          rw [hr.1] at this
          cases this
    · exact ⟨c ++ w, hc.append hw, Or.inr (by simp)⟩

theorem joinWith_prefixed (c : Str) (ls : List Str) (hne : ls ≠ []) :
    c ++ joinWith c ls = (ls.map (c ++ ·)).flatten := by
  induction ls with
  | nil => exact absurd rfl hne
  | cons x xs ih =>
    cases xs with
    | nil => simp [joinWith]
    | cons y ys =>
      simp only [joinWith, List.map_cons, List.flatten_cons]
      have := ih (by simp)
      simp only [List.map_cons, List.flatten_cons] at this
      rw [← this]
      simp [List.append_assoc]

theorem lines_splitlinesKeep (h : Str) : Lines (splitlinesKeep h) ∧ (splitlinesKeep h).flatten = h :=
  lines_splitAux h [] (fun x hx => by cases hx)

theorem splitlinesKeep_ne_nil (h : Str) (hne : h ≠ []) : splitlinesKeep h ≠ [] := by
  intro h0
  have := (lines_splitlinesKeep h).2
  rw [h0] at this
  exact hne this.symm

variable (c : Str)

/-- **every line of the comment block, as a line-splitting reader sees it, is a header line behind the marker** -/
theorem splitlines_commentBlock (hc : NoBreak c) (hcne : c ≠ []) (h : Str) (hne : h ≠ []) :
    splitlinesKeep (commentBlock c h) = (splitlinesKeep h).map (c ++ ·) := by
  unfold commentBlock
  rw [joinWith_prefixed c _ (splitlinesKeep_ne_nil h hne)]
  exact splitAux_lines ((lines_splitlinesKeep h).1.prefixed hc hcne)

theorem commentBlock_lines_marked (hc : NoBreak c) (hcne : c ≠ []) (h : Str) (hne : h ≠ []) :
    ∀ l ∈ splitlinesKeep (commentBlock c h), c.isPrefixOf l = true := by
  intro l hl
  rw [splitlines_commentBlock c hc hcne h hne] at hl
  obtain ⟨l0, _, rfl⟩ := List.mem_map.1 hl
  exact List.isPrefixOf_iff_prefix.2 ⟨l0, rfl⟩

end BSE.Header
