import BSEModel.TurbomoleEcp
import BSEProofs.Lemmas.TurbomoleRT
import BSEProofs.Lemmas.NwchemEcp

/-! # Turbomole `$ecp` section: reading what was written gives the potentials back -/

namespace BSE.Turbomole
open BSE.Nwchem (Str EPot RPot writeOrder maxAmOf mem_writeOrder writeOrder_perm)
variable {ν : Type}

/-- as `elemBlock` of the electron section: the `*` before the element line, the element line, the rest -/
def elemBlockP (T : PTables ν) (name : Str) (e : Nat × Str × List (EPot ν)) : PLine ν × PLine ν × List (PLine ν) :=
  (.star, .elem (T.symOf e.1) name,
    .star :: .info e.2.1 (T.natStr (maxAmOf e.2.2)) :: (writeOrder e.2.2).flatMap (potLinesP T (maxAmOf e.2.2)))

theorem ecpLinesP_eq (T : PTables ν) (name : Str) (els : List (Nat × Str × List (EPot ν))) :
    ecpLinesP T name els = (els.map (elemBlockP T name)).flatMap lines3 ++ [.star] := by
  rw [List.flatMap_map]
  exact rotate_sep PLine.star (fun e => .elem (T.symOf e.1) name :: .star :: .info e.2.1 (T.natStr (maxAmOf e.2.2))
    :: (writeOrder e.2.2).flatMap (potLinesP T (maxAmOf e.2.2))) els

theorem potLines_plain (T : PTables ν) (m : Nat) (ps : List (EPot ν)) :
    ∀ x ∈ ps.flatMap (potLinesP T m), pIsElem x = false ∧ pIsStarLike x = false := by
  intro x hx
  obtain ⟨p, _, hp⟩ := List.mem_flatMap.1 hx
  simp only [potLinesP, List.mem_cons, List.mem_map] at hp
  rcases hp with rfl | ⟨r, _, rfl⟩ <;> simp [pIsElem, pIsStarLike]

structure PotOKP (T : PTables ν) (p : EPot ν) : Prop where
  terms_ne : p.terms ≠ []
  r_int : ∀ t ∈ p.terms, T.isInt t.1 = true
  g_num : ∀ t ∈ p.terms, T.isNum t.2.1 = true
  c_num : ∀ t ∈ p.terms, T.isNum t.2.2 = true
  /-- the letter the writer prints is read back as this momentum (true up to l = 6; the two letter conventions part at 7) -/
  letter : T.amOfLetter (T.amLetter p.am) = some [p.am]

def readPotP (p : EPot ν) : RPot ν :=
  { am := some [p.am], rexp := p.terms.map (·.1), gexp := p.terms.map (·.2.1), coef := p.terms.map (·.2.2) }

theorem parseTableP_terms (T : PTables ν) (p : EPot ν) (ok : PotOKP T p) :
    parseTableP T (p.terms.map fun t => PLine.row [t.2.2, t.1, t.2.1])
      = .ok (p.terms.map (·.1), p.terms.map (·.2.1), p.terms.map (·.2.2)) := by
  obtain ⟨h3, e0, e1, e2⟩ := Nwchem.rows3 p.terms (·.2.2) (·.1) (·.2.1)
  obtain ⟨hr, hg, hc⟩ := Nwchem.typed_cols fun t ht => ⟨ok.r_int t ht, ok.g_num t ht, ok.c_num t ht⟩
  unfold parseTableP
  simp only [List.map_map, Function.comp_def, h3, Bool.false_eq_true, if_false, e0, e1, e2, hr, hg, hc, Bool.not_true]

theorem parsePotP_written (T : PTables ν) (L : Nat) (found : Bool) (p : EPot ν) (ok : PotOKP T p)
    (hletter : T.amOfLetter (T.amLetter L) = some [L]) (hf : p.am = L → found = false) :
    parsePotP T L found (potLinesP T L p) = .ok (readPotP p, found || p.am == L) := by
  have hne : (p.terms.map fun t => PLine.row (ν := ν) [t.2.2, t.1, t.2.1]).isEmpty = false := by simp [ok.terms_ne]
  unfold parsePotP potLinesP
  by_cases hL : p.am = L
  · subst hL
    simp only [if_true, hne, Bool.false_eq_true, if_false, ok.letter, hf rfl, List.headD_cons, bne_self_eq_false,
      parseTableP_terms T p ok, beq_self_eq_true, Bool.or_true]
    rfl
  · simp only [hL, if_false, hne, Bool.false_eq_true, ok.letter, hletter, List.headD_cons, bne_self_eq_false,
      parseTableP_terms T p ok, beq_eq_false_iff_ne.2 hL, Bool.or_false]
    rfl

/-- potentials with pairwise different momenta are read back in whatever order they stand: at most one of them is the
highest, so the reader's `found_max` flag never refuses -/
theorem parsePotsP_written (T : PTables ν) (L : Nat) (hletter : T.amOfLetter (T.amLetter L) = some [L])
    (ps : List (EPot ν)) (ok : ∀ p ∈ ps, PotOKP T p) (hnd : (ps.map (·.am)).Nodup) :
    ∀ found : Bool, (found = true → L ∉ ps.map (·.am)) →
      parsePotsP T L found (ps.map (potLinesP T L)) = .ok (ps.map readPotP) := by
  induction ps with
  | nil => intro _ _; rfl
  | cons p ps ih =>
    intro found hf
    obtain ⟨hp, hps⟩ : p.am ∉ ps.map (·.am) ∧ (ps.map (·.am)).Nodup := List.nodup_cons.1 hnd
    have hfp : p.am = L → found = false := fun h => Bool.eq_false_iff.2 fun ht => hf ht (by simp [h])
    -- behind `p` the flag is set if it is set already or `p` is the highest: in both cases `L` is not among the rest
    have hf' : (found || p.am == L) = true → L ∉ ps.map (·.am) := by
      intro ht hm
      rcases Bool.or_eq_true_iff.1 ht with h | h
      · exact hf h (List.mem_cons_of_mem _ hm)
      · rw [← eq_of_beq h] at hm
        exact hp hm
    simp only [List.map_cons, parsePotsP, parsePotP_written T L found p (ok p (by simp)) hletter hfp]
    rw [ih (fun q hq => ok q (by simp [hq])) hps (found || p.am == L) hf']

theorem splitAt_pots (T : PTables ν) (L : Nat) (ps : List (EPot ν)) :
    splitAt pIsAlpha (ps.flatMap (potLinesP T L)) = ([], ps.map (potLinesP T L)) :=
  splitAt_blocks pIsAlpha (fun p => .title (T.amLetter p.am) (if p.am = L then none else some (T.amLetter L)))
    (fun p => p.terms.map fun t => .row [t.2.2, t.1, t.2.1]) ps (fun _ _ => rfl)
    fun _ _ y hy => by obtain ⟨t, _, rfl⟩ := List.mem_map.1 hy; rfl

structure ElOKP (T : PTables ν) (e : Nat × Str × List (EPot ν)) (n : Nat) : Prop where
  sym : T.zOf (T.symOf e.1) = some e.1
  nelec : T.natOf e.2.1 = some n
  lmax_rt : T.natOf (T.natStr (maxAmOf e.2.2)) = some (maxAmOf e.2.2)
  lmax_letter : T.amOfLetter (T.amLetter (maxAmOf e.2.2)) = some [maxAmOf e.2.2]
  pots : ∀ p ∈ e.2.2, PotOKP T p
  distinct : (e.2.2.map (·.am)).Nodup

theorem parseEcpElementP_written (T : PTables ν) (name : Str) (e : Nat × Str × List (EPot ν)) (n : Nat) (ok : ElOKP T e n)
    (seen : List Nat) (hseen : e.1 ∉ seen) :
    parseEcpElementP T seen (lines3 (elemBlockP T name e)) = .ok (e.1, n, (writeOrder e.2.2).map readPotP) := by
  have hs : seen.contains e.1 = false := by simpa using hseen
  have hpots : ∀ p ∈ writeOrder e.2.2, PotOKP T p := fun p hp => ok.pots p ((mem_writeOrder e.2.2 p).1 hp)
  have hlen : ((writeOrder e.2.2).map (potLinesP T (maxAmOf e.2.2))).any (fun b => decide (b.length < 2)) = false := by
    apply List.any_eq_false.2
    intro b hb
    obtain ⟨p, hp, rfl⟩ := List.mem_map.1 hb
    cases ht : p.terms with
    | nil => exact absurd ht (hpots p hp).terms_ne
    | cons a as => simp [potLinesP, ht]
  unfold parseEcpElementP elemBlockP lines3
  -- the reader's guards, in source order, each fall to one field of `ok`
  simp only [ok.sym, hs, Bool.false_eq_true, if_false, ok.nelec, ok.lmax_rt, splitAt_pots, List.isEmpty_nil, if_true, hlen,
    parsePotsP_written T _ ok.lmax_letter _ hpots (((writeOrder_perm e.2.2).map _).nodup_iff.2 ok.distinct) false
      (fun h => nomatch h)]

/- `count e`: the number the reader makes of the electron-count token of `e` (the writer passes the token through;
`ElOKP.nelec` says it parses to `count e`) -/
theorem parseEcpElementsP_written (T : PTables ν) (name : Str) (count : Nat × Str × List (EPot ν) → Nat)
    (els : List (Nat × Str × List (EPot ν))) (hok : ∀ e ∈ els, ElOKP T e (count e)) :
    ∀ (seen : List Nat), (seen ++ els.map (·.1)).Nodup →
      parseEcpElementsP T seen (els.map fun e => lines3 (elemBlockP T name e))
        = .ok (els.map fun e => (e.1, count e, (writeOrder e.2.2).map readPotP)) := by
  induction els with
  | nil => intro _ _; rfl
  | cons e es ih =>
    intro seen hnd
    have hseen : e.1 ∉ seen := fun hm => (List.nodup_append.1 hnd).2.2 e.1 hm e.1 (by simp) rfl
    simp only [List.map_cons, parseEcpElementsP, parseEcpElementP_written T name e (count e) (hok e (by simp)) seen hseen,
      ih (fun x hx => hok x (by simp [hx])) (e.1 :: seen) (List.perm_middle.nodup_iff.1 hnd)]

theorem firstSome_none {α β : Type} (f : α → Option β) (l : List α) (h : ∀ a ∈ l, f a = none) : firstSome f l = none := by
  induction l with
  | nil => rfl
  | cons a as ih => simp only [firstSome, h a (by simp)]; exact ih fun x hx => h x (by simp [hx])

theorem readEcpP_write (T : PTables ν) (name : Str) (count : Nat × Str × List (EPot ν) → Nat)
    (els : List (Nat × Str × List (EPot ν))) (hne : els ≠ [])
    (hnd : (els.map (·.1)).Nodup) (hok : ∀ e ∈ els, ElOKP T e (count e)) :
    readEcpP T (ecpLinesP T name els) = .ok (els.map fun e => (e.1, count e, (writeOrder e.2.2).map readPotP)) := by
  obtain ⟨x, r, rs, hsplit, hsteal⟩ := split_steal pIsElem (els.map (elemBlockP T name)) (by simpa using hne) (by
    intro b hb
    obtain ⟨e, _, rfl⟩ := List.mem_map.1 hb
    refine ⟨rfl, rfl, fun x hx => ?_⟩
    rcases List.mem_cons.1 hx with rfl | hx
    · rfl
    · rcases List.mem_cons.1 hx with rfl | hx
      · rfl
      · exact (potLines_plain T _ _ x hx).1)
  have hstars : firstSome badStarsP (els.map fun e => lines3 (elemBlockP T name e)) = none := by
    apply firstSome_none
    intro b hb
    obtain ⟨e, _, rfl⟩ := List.mem_map.1 hb
    have hnostar : ((writeOrder e.2.2).flatMap (potLinesP T (maxAmOf e.2.2))).any pIsStarLike = false :=
      List.any_eq_false.2 fun x hx => by simp [(potLines_plain T _ _ x hx).2]
    simp [badStarsP, elemBlockP, lines3, pIsStar, pIsStarLike, hnostar]
  rw [ecpLinesP_eq]
  unfold readEcpP
  simp only [List.reverse_concat, List.reverse_reverse, hsplit, List.isEmpty_cons, Bool.false_eq_true, if_false,
    List.length_singleton, bne_self_eq_false, hsteal, List.tail_cons, List.map_map, Function.comp_def, hstars]
  exact parseEcpElementsP_written T name count els hok [] hnd

end BSE.Turbomole
