import BSEModel.G94
import BSEProofs.Lemmas.NwchemRT

/-! # Gaussian94 electron block: reading what was written gives the shells back -/

namespace BSE.G94
open BSE.Nwchem (Str EShell ShellOK toR)
variable {ν : Type}

/-- a block as the reader cuts it, laid out as lines -/
def blockLinesG (b : List Str × List (List ν)) : List (GLine ν) := .head b.1 :: b.2.map .row

theorem blocksG_rows (rs : List (List ν)) (rest : List (GLine ν)) :
    blocksG (rs.map GLine.row ++ rest) = (rs.map some ++ (blocksG rest).1, (blocksG rest).2) := by
  induction rs with
  | nil => simp
  | cons r rs ih => simp [blocksG, ih]

theorem blocksG_blocks (bs : List (List Str × List (List ν))) :
    blocksG (bs.flatMap blockLinesG) = ([], bs.map fun b => (b.1, b.2.map some)) := by
  induction bs with
  | nil => rfl
  | cons b bs ih => simp [blockLinesG, blocksG, blocksG_rows, ih]

theorem allSome_map_some {α : Type} (l : List α) : allSome (l.map some) = some l := by
  induction l with
  | nil => rfl
  | cons a as ih => simp [allSome, ih]

/-- what the shell must satisfy on top of `ShellOK`: Gaussian holds no general contractions, and the counts print and
parse back -/
structure GShellOK (T : GTables ν) (sh : EShell ν) : Prop where
  base : ShellOK T.toTables sh
  ncols : sh.coefs.length = sh.am.length
  count_rt : T.natOf (T.natStr sh.exps.length) = some sh.exps.length

/-- the constant scaling factor the writer prints is a float, not zero, and its square is one -/
structure ScaleOK (T : GTables ν) : Prop where
  isFloat : T.isFloatStr "1.00".toList = true
  nonzero : T.isZeroF "1.00".toList = false
  unit : T.isUnitF "1.00".toList = true

theorem parseShell_written (T : GTables ν) (sc : ScaleOK T) (sh : EShell ν) (ok : GShellOK T sh) :
    parseShell T ([T.amStr sh.am, T.natStr sh.exps.length, "1.00".toList], (zipStar (sh.exps :: sh.coefs)).map some)
      = .ok (toR T.toTables true sh) := by
  unfold parseShell amOfHead parseMatrixN
  -- the reader's guards, in source order, each fall to one field of `ok` or of `sc`
  simp only [ok.count_rt, List.all_cons, List.all_nil, sc.isFloat, Bool.and_self, Bool.not_true, Bool.false_eq_true, if_false,
    ok.base.am_rt.2, if_true, ok.base.am_rt.1, List.filter_cons, sc.nonzero, Bool.not_false, List.filter_nil, sc.unit,
    allSome_map_some, ok.base.parseMatrix none (fun _ h => nomatch h), bne_self_eq_false, ok.ncols, toR]

theorem mapG_eq {α β : Type} (f : α → Except GErr β) (l : List α) : mapG f l = mapEx f l := by
  induction l with
  | nil => rfl
  | cons a as ih =>
    simp only [mapG, mapEx, ih]
    cases f a with
    | error e => rfl
    | ok b => cases mapEx f as <;> rfl

/-- `toR … true`: the reader always assigns the spherical function type -/
theorem parseElectron_write (T : GTables ν) (sc : ScaleOK T) (z : Nat) (shells : List (EShell ν))
    (hz : T.zOf (T.symOf z) = some z) (hok : ∀ sh ∈ shells, GShellOK T sh) :
    parseElectron T (electronBlock T z shells) = .ok (z, shells.map (toR T.toTables true)) := by
  have hbody : shells.flatMap (shellLines T)
      = (shells.map fun sh => ([T.amStr sh.am, T.natStr sh.exps.length, "1.00".toList], zipStar (sh.exps :: sh.coefs))).flatMap
          blockLinesG := by
    rw [List.flatMap_map]; rfl
  unfold parseElectron electronBlock
  simp only [List.reverse_append, List.reverse_cons, List.reverse_nil, List.nil_append, List.singleton_append,
    List.reverse_reverse, hz, hbody, blocksG_blocks, List.isEmpty_nil, Bool.not_true, Bool.false_eq_true, if_false, List.map_map]
  rw [mapG_eq, mapEx_map (parseShell T) _ (toR T.toTables true) shells]
  exact fun sh hsh => parseShell_written T sc sh (hok sh hsh)

end BSE.G94
