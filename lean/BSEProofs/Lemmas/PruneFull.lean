import BSEProofs.Lemmas.PruneShell
import BSEModel.ManipOps
import BSEProofs.Lemmas.InsSort
/-! Full-operation lemmas: a re-contraction step followed by `prune_basis` keeps the set of contracted
functions, for semantically well-formed shells. -/
namespace BSE
variable {ν : Type}

/-- semantic well-formedness of a shell: rectangular, at least one contraction, a momentum, and no
contraction that is the zero function (the semantic form of "no all-zero contraction") -/
structure SemWF (val : ν → Rat) (sh : Shell ν) : Prop where
  am_ne : sh.am ≠ []
  rect : RectShell sh
  cols_ne : sh.coefs ≠ []
  live : ∀ c ∈ sh.coefs, ∃ x, colFn val sh.exps c x ≠ 0

theorem pruneShell_survives (val : ν → Rat) (sh sh' : Shell ν) (hw : SemWF val sh)
    (h : pruneShell val sh = .ok sh') : sh'.exps ≠ [] := by
  intro hnil
  obtain ⟨c, hc⟩ := List.exists_mem_of_ne_nil _ hw.cols_ne
  obtain ⟨x, hx⟩ := hw.live c hc
  obtain ⟨j, hj, rfl⟩ := List.mem_iff_getElem.1 hc
  have := pruneShell_colFn val sh sh' _ rfl hw.rect hw.cols_ne h j hj x
  rw [hnil, colFn_nil_left] at this
  simp only [List.getElem?_eq_getElem hj, Option.getD_some] at this
  exact hx this.symm

theorem pruneShell_ncols_wf (val : ν → Rat) (sh sh' : Shell ν) (hw : SemWF val sh) (h : pruneShell val sh = .ok sh') :
    sh'.coefs.length = sh.coefs.length :=
  (pruneShell_rect val sh sh' hw.rect hw.cols_ne h (pruneShell_survives val sh sh' hw h)).1

theorem pruneShell_funcs_wf (val : ν → Rat) (sh sh' : Shell ν) (hw : SemWF val sh)
    (h : pruneShell val sh = .ok sh') : sh'.funcs val = sh.funcs val :=
  pruneShell_funcs val sh sh' _ rfl hw.rect hw.cols_ne h (pruneShell_survives val sh sh' hw h)

theorem SemWF.col_ne_zero {val : ν → Rat} {sh : Shell ν} (hw : SemWF val sh) (g : List ν) (hg : g ∈ sh.coefs) :
    ∃ c ∈ g, val c ≠ 0 := by
  obtain ⟨x, hx⟩ := hw.live g hg
  exact Classical.byContradiction fun hno => hx <|
    colFn_zero_of_allZero val _ _ (fun c hc => Classical.byContradiction fun h0 => hno ⟨c, hc, h0⟩) x

theorem semWF_pruneShell (val : ν → Rat) (sh sh' : Shell ν) (hw : SemWF val sh) (h : pruneShell val sh = .ok sh') :
    SemWF val sh' := by
  have hkeep := pruneShell_survives val sh sh' hw h
  have hfn := pruneShell_colFns val sh sh' hw.rect hw.cols_ne h hkeep
  refine ⟨?_, (pruneShell_rect val sh sh' hw.rect hw.cols_ne h hkeep).2, fun h0 => ?_, fun g hg => ?_⟩
  · rw [pruneShell_am val sh sh' h]
    exact hw.am_ne
  · -- pruning keeps the number of columns
    have hlen := pruneShell_ncols_wf val sh sh' hw h
    rw [h0] at hlen
    exact hw.cols_ne (List.eq_nil_of_length_eq_zero hlen.symm)
  · -- as a function, `g` is a column of `sh`
    have hmem := List.mem_map_of_mem (f := colFn val sh'.exps) hg
    rw [hfn] at hmem
    obtain ⟨c, hc, he⟩ := List.mem_map.1 hmem
    obtain ⟨x, hx⟩ := hw.live c hc
    rw [← he]
    exact ⟨x, hx⟩

theorem funcSet_pruneShells [DecidableEq ν] (val : ν → Rat) (shells out : List (Shell ν))
    (hw : ∀ sh ∈ shells, SemWF val sh) (h : pruneShells val shells = .ok out) (f : Func) :
    funcSet val out f ↔ funcSet val shells f := by
  obtain ⟨ss, hm, rfl⟩ := pruneShells_ok h
  rw [funcSet_dedup, funcSet_iff, funcSet_iff, List.flatMap_def, List.flatMap_def,
    mapE_map_eq (·.funcs val) (·.funcs val) hm fun s hs s' hp => pruneShell_funcs_wf val s s' (hw s hs) hp]

theorem semWF_uncontractGeneralCore (val : ν → Rat) (shells : List (Shell ν)) (hw : ∀ sh ∈ shells, SemWF val sh) :
    ∀ s ∈ uncontractGeneralCore shells, SemWF val s := by
  intro s hs
  obtain ⟨sh, hsh, ⟨_, rfl⟩ | ⟨_, _, c, hc, rfl⟩⟩ := (mem_uncontractGeneralCore shells s).1 hs
  · exact hw _ hsh
  · have w := hw sh hsh
    -- the one column of the new shell is the column `c` of `sh`
    refine ⟨w.am_ne, fun c' hc' => ?_, by simp, fun c' hc' => ?_⟩
    · rw [List.mem_singleton.1 hc']
      exact w.rect c hc
    · rw [List.mem_singleton.1 hc']
      exact w.live c hc

theorem groupCols_length (zero : ν) (N : Nat) : ∀ (group : List (Shell ν)) (cur : Nat), (∀ sh ∈ group, RectShell sh) →
    cur + (group.flatMap (·.exps)).length ≤ N → ∀ c ∈ groupCols zero N cur group, c.length = N := by
  intro group
  induction group with
  | nil => intro _ _ _ c hc; simp [groupCols] at hc
  | cons s r ih =>
    intro cur hr hN c hc
    simp only [List.flatMap_cons, List.length_append] at hN
    simp only [groupCols, List.mem_append, padCols, List.mem_map] at hc
    rcases hc with ⟨c0, hc0, rfl⟩ | hc
    · have := hr s (by simp) c0 hc0
      simp only [List.length_append, List.length_replicate]
      omega
    · exact ih _ (fun sh h => hr sh (by simp [h])) (by omega) c hc

theorem semWF_mergeGroup (val : ν → Rat) (zero : ν) (hz : val zero = 0) (a : Nat) (group : List (Shell ν))
    (hne : group ≠ []) (hw : ∀ sh ∈ group, SemWF val sh) : SemWF val (mergeGroup zero [a] group) := by
  have hr : ∀ sh ∈ group, RectShell sh := fun sh h => (hw sh h).rect
  refine ⟨by simp [mergeGroup], groupCols_length zero _ group 0 hr (by simp), ?_, fun c hc => ?_⟩
  · -- at least one column: the first shell of the group has one
    cases group with
    | nil => exact absurd rfl hne
    | cons s r =>
      cases hcs : s.coefs with
      | nil => exact absurd hcs (hw s (by simp)).cols_ne
      | cons c0 cs => simp [mergeGroup, groupCols, padCols, hcs]
  · -- as a function, `c` is a column of one of the shells
    have := List.mem_map_of_mem (f := colFn val (mergeGroup zero [a] group).exps) hc
    rw [mergeGroup_colFn val zero hz [a] group hr] at this
    obtain ⟨sh, hsh, hin⟩ := List.mem_flatMap.1 this
    obtain ⟨c0, hc0, he⟩ := List.mem_map.1 hin
    obtain ⟨x, hx⟩ := (hw sh hsh).live c0 hc0
    rw [← he]
    exact ⟨x, hx⟩

theorem semWF_makeGeneralCore [DecidableEq ν] (val : ν → Rat) (zero : ν) (hz : val zero = 0)
    (sortAm : List (List Nat) → List (List Nat)) (hperm : ∀ l x, x ∈ sortAm l ↔ x ∈ l)
    (shells : List (Shell ν)) (hw : ∀ sh ∈ shells, SemWF val sh) :
    ∀ s ∈ makeGeneralCore zero sortAm shells, SemWF val s := by
  intro s hs
  rcases (mem_makeGeneralCore zero sortAm hperm shells (fun sh h => (hw sh h).am_ne) s).1 hs with
    ⟨hs, _⟩ | ⟨a, ⟨s0, hs0, ha⟩, rfl⟩
  · exact hw s hs
  · exact semWF_mergeGroup val zero hz a _ (List.ne_nil_of_mem (List.mem_filter.2 ⟨hs0, by simpa using ha⟩))
      fun sh hsh => hw sh (List.mem_filter.1 hsh).1

theorem insertAm_isInsert : InsSort.IsInsert (fun a b : List Nat => a.headD 0 ≤ b.headD 0) insertAm :=
  ⟨fun _ => rfl, fun _ _ _ => rfl⟩

theorem mem_sortAm (l : List (List Nat)) (x : List Nat) : x ∈ sortAm l ↔ x ∈ l := insertAm_isInsert.mem_sort l x

theorem makeGeneral_ok [DecidableEq ν] {val : ν → Rat} {zero : ν} {skip : Bool} {shells out : List (Shell ν)}
    (h : makeGeneral val zero skip shells = .ok out) :
    pruneShells val (makeGeneralCore zero sortAm (if skip then shells else uncontractSpdf 0 shells)) = .ok out := by
  unfold makeGeneral at h
  simp only at h
  generalize (if skip = true then shells else uncontractSpdf 0 shells) = s0 at h ⊢
  split at h
  · cases h
  · exact h

theorem funcSet_makeGeneral [DecidableEq ν] (val : ν → Rat) (zero : ν) (hz : val zero = 0) (skip : Bool)
    (shells out : List (Shell ν))
    (hw : ∀ sh ∈ (if skip then shells else uncontractSpdf 0 shells), SemWF val sh)
    (h : makeGeneral val zero skip shells = .ok out) (f : Func) :
    funcSet val out f ↔ funcSet val shells f := by
  rw [funcSet_pruneShells val _ out (semWF_makeGeneralCore val zero hz sortAm mem_sortAm _ hw) (makeGeneral_ok h) f,
    funcSet_makeGeneralCore val zero hz sortAm mem_sortAm _ (fun sh hsh => (hw sh hsh).rect) (fun sh hsh => (hw sh hsh).am_ne) f]
  cases skip with
  | true => rfl
  | false => exact funcSet_uncontractSpdf val 0 shells f

end BSE
