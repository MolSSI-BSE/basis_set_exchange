import BSEProofs.Props.C01
import BSEProofs.Props.C02
import BSEProofs.Props.C03
import BSEProofs.Props.C04
import BSEProofs.Props.C05
import BSEProofs.Props.C06
import BSEProofs.Props.C07
import BSEProofs.Props.C08
import BSEProofs.Props.C09
import BSEProofs.Props.C10
import BSEProofs.Props.C11
import BSEProofs.Props.C12
import BSEProofs.Props.C13
import BSEProofs.Props.C14
import BSEProofs.Props.C15
import BSEProofs.Props.C16
import BSEProofs.Props.C17
import BSEProofs.Props.C18
import BSEProofs.Props.C19
import BSEProofs.Props.C20
