import BSEModel.ManipOps
import BSEGen.Manip
import BSEGen.Api
import Mathlib.LinearAlgebra.Span.Defs
import Mathlib.Algebra.Field.Rat
import Mathlib.Algebra.Module.Pi
import Mathlib.Algebra.Order.BigOperators.Group.List
import Mathlib.Algebra.Order.Group.Nat
import Mathlib.Data.Fin.VecNotation
/-! # C07 — primitive-level operations do exactly what they are defined to do

`uncontract_segmented` and `remove_free_primitives` are characterised on the function set (`funcSet`, as in C02).
`optimize_general` keeps not the function set but its linear span: one zeroing step keeps `Submodule.span ℚ` of the columns
(`span_zeroRow`, abstract linear algebra), the sweep over all free primitives follows by induction (`span_zeroAll`), and
`optimizeShell_span` carries that to the list-level function of the model (`BSEModel/ManipOps.lean`). -/
namespace BSE.Props.C07

variable {ν : Type}

/-- the literal the code writes for every new coefficient is the number one (read from the source) -/
theorem usegOne_is_one : numVal BSE.Gen.Manip.usegOne = 1 := by decide +kernel

theorem funcs_replicate (val : ν → Rat) (sh : Shell ν) (es c : List ν) :
    ({ sh with exps := es, coefs := List.replicate sh.am.length c } : Shell ν).funcs val
      = sh.am.map fun l => (l, colFn val es c) := by
  rw [Shell.funcs_eq_map val _ (sh.am.map fun l => (l, c)), List.map_map]
  · rfl
  · rw [List.map_map]; exact (List.map_id _).symm
  · rw [List.map_map, ← List.map_const']; rfl

/-- **uncontract_segmented returns one unit-coefficient function for every (momentum, exponent)
primitive of the input and nothing else** (set level; the coefficient literal is `one`) -/
theorem uncontractSegmented_spec (val : ν → Rat) (one : ν) (shells : List (Shell ν)) (f : Func) :
    funcSet val (uncontractSegmented one shells) f
      ↔ ∃ sh ∈ shells, ∃ e ∈ sh.exps, ∃ l ∈ sh.am, f = (l, colFn val [e] [one]) := by
  refine List.mem_flatMap.symm.trans ?_
  unfold uncontractSegmented
  simp only [List.flatMap_assoc, List.flatMap_map, funcs_replicate, List.mem_flatMap, List.mem_map]
  simp only [@eq_comm _ f]      -- the two sides differ in the direction of the last equation

/-- the unit function of a primitive: `1` at the exponent's value, `0` elsewhere -/
theorem unit_colFn (val : ν → Rat) (e one : ν) (h1 : val one = 1) (x : Rat) :
    colFn val [e] [one] x = if val e = x then 1 else 0 := by
  simp [colFn, h1]

/-- every new shell holds exactly one primitive, and there is one per input primitive -/
theorem uncontractSegmented_shape (one : ν) (shells : List (Shell ν)) :
    (∀ s ∈ uncontractSegmented one shells, s.exps.length = 1)
      ∧ (uncontractSegmented one shells).length = (shells.map (·.exps.length)).sum := by
  unfold uncontractSegmented
  constructor
  · intro s hs
    obtain ⟨sh, _, hs'⟩ := List.mem_flatMap.1 hs
    obtain ⟨e, _, rfl⟩ := List.mem_map.1 hs'
    rfl
  · simp [List.length_flatMap]

theorem funcs_removeFreeCore (val : ν → Rat) (shells : List (Shell ν)) :
    (removeFreeCore val shells).flatMap (·.funcs val) = shells.flatMap fun sh =>
      (sh.amCols.filter fun p => !isSingleColumn val p.2).map fun p => (p.1, colFn val sh.exps p.2) := by
  induction shells with
  | nil => rfl
  | cons sh rest ih =>
    rw [List.flatMap_cons, ← ih]
    unfold removeFreeCore Shell.amCols
    rw [List.filterMap_cons]
    by_cases hf : sh.am.length > 1
    · rw [if_pos hf, if_pos hf]
      generalize (sh.am.zip sh.coefs).filter (fun p => !isSingleColumn val p.2) = kept
      cases kept with
      | nil => rfl
      | cons p kept =>
        show Shell.funcs val _ ++ _ = _ ++ _
        rw [Shell.funcs_eq_map val _ (p :: kept) rfl rfl]
        rfl
    · rw [if_neg hf, if_neg hf, List.filter_map, List.map_map,
        show ((fun p : Nat × List ν => !isSingleColumn val p.2) ∘ fun c => (sh.am.headD 0, c))
          = fun c => !isSingleColumn val c from rfl]
      generalize sh.coefs.filter (fun c => !isSingleColumn val c) = kept
      cases kept with
      | nil => rfl
      | cons c kept =>
        show Shell.funcs val { sh with coefs := c :: kept } ++ _ = _ ++ _
        rw [Shell.funcs, if_neg hf]
        rfl

/-- on single-momentum shells only the second branch of `removeFreeCore` runs: the momentum list and the tag stay -/
theorem removeFreeCore_single (val : ν → Rat) (shells : List (Shell ν)) (hsingle : ∀ sh ∈ shells, sh.am.length = 1) :
    removeFreeCore val shells = shells.filterMap fun sh =>
      let kept := sh.coefs.filter (fun c => !isSingleColumn val c)
      if kept.isEmpty then none else some { sh with coefs := kept } := by
  unfold removeFreeCore
  refine List.filterMap_congr fun sh hsh => ?_
  rw [if_neg (by have := hsingle sh hsh; omega)]

/-- **the column filter of remove_free_primitives keeps exactly the functions that contract two or
more primitives** (single-momentum shells; a column with no non-zero entry is kept too — such a
column does not exist in valid data) -/
theorem removeFree_spec (val : ν → Rat) (shells : List (Shell ν))
    (hsingle : ∀ sh ∈ shells, sh.am.length = 1) (f : Func) :
    funcSet val (removeFreeCore val shells) f
      ↔ ∃ sh ∈ shells, ∃ c ∈ sh.coefs, isSingleColumn val c = false ∧ f = (sh.am.headD 0, colFn val sh.exps c) := by
  refine List.mem_flatMap.symm.trans ?_
  rw [funcs_removeFreeCore, List.mem_flatMap]
  refine exists_congr fun sh => and_congr_right fun hsh => ?_
  have hcols : sh.amCols = sh.coefs.map fun c => (sh.am.headD 0, c) := by
    unfold Shell.amCols
    rw [if_neg (by have := hsingle sh hsh; omega)]
  rw [hcols, List.filter_map, List.map_map]
  simp only [List.mem_map, List.mem_filter, Function.comp, Bool.not_eq_true', and_assoc]
  simp only [@eq_comm _ f]

/-- **fused shells** (fix ed2ae683: before it the momentum list was left untouched): what `remove_free_primitives` keeps of a fused
sp/spd shell is exactly its members whose column contracts two or more primitives — each still under its own angular momentum —, the
shell keeps one column per momentum (so it stays well formed), its exponents are untouched, and nothing is kept when no member is contracted -/
theorem removeFree_fused (val : ν → Rat) (sh : Shell ν) (hfused : sh.am.length > 1) (s : Shell ν)
    (hs : s ∈ removeFreeCore val [sh]) :
    s.funcs val = ((sh.am.zip sh.coefs).filter (fun p => !isSingleColumn val p.2)).map (fun p => (p.1, colFn val sh.exps p.2))
    ∧ s.am.length = s.coefs.length ∧ s.exps = sh.exps ∧ s.am ≠ [] := by
  unfold removeFreeCore at hs
  simp only [List.filterMap_cons, List.filterMap_nil, hfused, if_true] at hs
  generalize (sh.am.zip sh.coefs).filter (fun p => !isSingleColumn val p.2) = kept at hs ⊢
  cases kept with
  | nil => cases hs
  | cons p kept =>
    simp only [List.isEmpty_cons, Bool.false_eq_true, if_false, List.mem_singleton] at hs
    subst hs
    exact ⟨Shell.funcs_eq_map val _ _ rfl rfl, by rw [List.length_map, List.length_map], rfl, List.cons_ne_nil _ _⟩

open Submodule in
/-- one step of optimize_general: zero row `r` in every column except `s` -/
def zeroRow {ι κ : Type} [DecidableEq ι] [DecidableEq κ] (cols : ι → (κ → ℚ)) (r : κ) (s : ι) : ι → (κ → ℚ) :=
  fun j => if j = s then cols j else Function.update (cols j) r 0

theorem zeroRow_apply {ι κ : Type} [DecidableEq ι] [DecidableEq κ] (cols : ι → (κ → ℚ)) (r : κ) (s j : ι) (i : κ) :
    zeroRow cols r s j i = if j ≠ s ∧ i = r then 0 else cols j i := by
  unfold zeroRow
  by_cases hj : j = s
  · rw [if_pos hj, if_neg fun h => h.1 hj]
  · rw [if_neg hj, Function.update_apply, if_congr (and_iff_right hj) rfl rfl]

theorem zeroRow_eq {ι κ : Type} [DecidableEq ι] [DecidableEq κ] (cols : ι → (κ → ℚ)) (r : κ) (s : ι)
    (hs : ∀ i, i ≠ r → cols s i = 0) (hr : cols s r ≠ 0) (j : ι) (hj : j ≠ s) :
    zeroRow cols r s j = cols j - (cols j r / cols s r) • cols s := by
  funext i
  rw [zeroRow_apply, Pi.sub_apply, Pi.smul_apply, smul_eq_mul]
  by_cases hi : i = r
  · rw [if_pos ⟨hj, hi⟩, hi, div_mul_cancel₀ _ hr, sub_self]
  · rw [if_neg fun h => hi h.2, hs i hi, mul_zero, sub_zero]

open Submodule in
/-- `Submodule.span_range_update_sub_smul` is the case of one changed member. -/
theorem span_range_sub_smul {R M ι : Type} [Ring R] [AddCommGroup M] [Module R M] (v w : ι → M) (s : ι)
    (hs : w s = v s) (hw : ∀ j, ∃ c : R, w j = v j - c • v s) :
    span R (Set.range w) = span R (Set.range v) := by
  apply le_antisymm
  · rw [span_le]
    rintro _ ⟨j, rfl⟩
    obtain ⟨c, hc⟩ := hw j
    rw [hc]
    exact sub_mem (subset_span ⟨j, rfl⟩) (smul_mem _ _ (subset_span ⟨s, rfl⟩))
  · rw [span_le]
    rintro _ ⟨j, rfl⟩
    obtain ⟨c, hc⟩ := hw j
    rw [eq_add_of_sub_eq hc.symm, ← hs]
    exact add_mem (subset_span ⟨j, rfl⟩) (smul_mem _ _ (subset_span ⟨s, rfl⟩))

open Submodule in
/-- **zeroing the row of a free primitive in every other column does not change the linear span
of the columns** — the step `optimize_general` repeats for every free primitive -/
theorem span_zeroRow {ι κ : Type} [DecidableEq ι] [DecidableEq κ] (cols : ι → (κ → ℚ)) (r : κ) (s : ι)
    (hs : ∀ i, i ≠ r → cols s i = 0) (hr : cols s r ≠ 0) :
    span ℚ (Set.range (zeroRow cols r s)) = span ℚ (Set.range cols) := by
  refine span_range_sub_smul cols _ s (if_pos rfl) fun j => ?_
  by_cases hj : j = s
  · exact ⟨0, by rw [hj, zero_smul, sub_zero]; exact if_pos rfl⟩
  · exact ⟨_, zeroRow_eq cols r s hs hr j hj⟩

/-- zeroing never creates a non-zero entry: the non-zero count cannot grow -/
theorem zeroRow_support {ι κ : Type} [DecidableEq ι] [DecidableEq κ] (cols : ι → (κ → ℚ)) (r : κ) (s : ι) (j : ι) (i : κ)
    (h : zeroRow cols r s j i ≠ 0) : cols j i ≠ 0 := by
  rw [zeroRow_apply] at h
  split at h
  · exact absurd rfl h
  · exact h

/-! ### all free primitives at once

`optimize_general` zeroes, in one sweep, row `r` of every column other than `s` for **every** pair `(r, s)` where
column `s` is a single-primitive column with its only non-zero entry in row `r` (the code refuses the shell when two
such columns sit on the same row).  `zeroAll` is that sweep; it keeps the span, by induction over the pairs with
`span_zeroRow` as the step. -/

def zeroAll {ι κ : Type} [DecidableEq ι] [DecidableEq κ] (cols : ι → (κ → ℚ)) (pairs : List (κ × ι)) : ι → (κ → ℚ) :=
  fun j i => if ∃ p ∈ pairs, p.1 = i ∧ p.2 ≠ j then 0 else cols j i

theorem zeroAll_apply {ι κ : Type} [DecidableEq ι] [DecidableEq κ] (cols : ι → (κ → ℚ)) (ps : List (κ × ι)) (j : ι) (i : κ) :
    zeroAll cols ps j i = if ∃ p ∈ ps, p.1 = i ∧ p.2 ≠ j then 0 else cols j i := rfl

theorem zeroAll_nil {ι κ : Type} [DecidableEq ι] [DecidableEq κ] (cols : ι → (κ → ℚ)) : zeroAll cols [] = cols := by
  funext j i
  exact if_neg fun ⟨_, hp, _⟩ => List.not_mem_nil hp

theorem zeroAll_cons {ι κ : Type} [DecidableEq ι] [DecidableEq κ] (cols : ι → (κ → ℚ)) (p : κ × ι) (ps : List (κ × ι)) :
    zeroAll cols (p :: ps) = zeroRow (zeroAll cols ps) p.1 p.2 := by
  funext j i
  rw [zeroRow_apply, zeroAll_apply, zeroAll_apply, ← ite_or]
  -- the head pair zeroes `(j, i)` when `i` is its row and `j` is not its column; the tail is the sweep over `ps`
  have hcond : (∃ q ∈ p :: ps, q.1 = i ∧ q.2 ≠ j) ↔ (j ≠ p.2 ∧ i = p.1) ∨ ∃ q ∈ ps, q.1 = i ∧ q.2 ≠ j := by
    rw [List.exists_mem_cons_iff]
    exact or_congr_left ⟨fun h => ⟨h.2.symm, h.1.symm⟩, fun h => ⟨h.2.symm, h.1.symm⟩⟩
  exact if_congr hcond rfl rfl

open Submodule in
/-- **the whole sweep of optimize_general keeps the linear span of the contractions**, for any number of free
primitives: every pair names a column whose only non-zero entry is in the pair's row, rows pairwise different -/
theorem span_zeroAll {ι κ : Type} [DecidableEq ι] [DecidableEq κ] (cols : ι → (κ → ℚ)) (pairs : List (κ × ι))
    (hsingle : ∀ p ∈ pairs, (∀ i, i ≠ p.1 → cols p.2 i = 0) ∧ cols p.2 p.1 ≠ 0)
    (hrows : (pairs.map (·.1)).Nodup) :
    span ℚ (Set.range (zeroAll cols pairs)) = span ℚ (Set.range cols) := by
  induction pairs with
  | nil => rw [zeroAll_nil]
  | cons p ps ih =>
    obtain ⟨hnot, hrows'⟩ := List.nodup_cons.1 hrows
    obtain ⟨hz, hnz⟩ := hsingle p (List.mem_cons_self ..)
    rw [zeroAll_cons, span_zeroRow _ p.1 p.2 ?_ ?_, ih (fun q hq => hsingle q (List.mem_cons_of_mem _ hq)) hrows']
    · intro i hi
      rw [zeroAll_apply, hz i hi, ite_self]
    · -- no later pair sits on row `p.1`, so the entry is still the one of `cols`
      rw [zeroAll_apply, if_neg]
      · exact hnz
      · rintro ⟨q, hq, hq1, _⟩
        exact hnot (List.mem_map.2 ⟨q, hq, hq1⟩)

/-- the sweep never creates a non-zero entry, and never touches a single-primitive column itself -/
theorem zeroAll_support {ι κ : Type} [DecidableEq ι] [DecidableEq κ] (cols : ι → (κ → ℚ)) (pairs : List (κ × ι)) (j : ι) (i : κ)
    (h : zeroAll cols pairs j i ≠ 0) : cols j i ≠ 0 := by
  unfold zeroAll at h
  split at h
  · exact absurd rfl h
  · exact h

/-- after the sweep a free primitive's row is non-zero only in its own column -/
theorem zeroAll_row_exclusive {ι κ : Type} [DecidableEq ι] [DecidableEq κ] (cols : ι → (κ → ℚ)) (pairs : List (κ × ι))
    (p : κ × ι) (hp : p ∈ pairs) (j : ι) (hj : j ≠ p.2) : zeroAll cols pairs j p.1 = 0 := by
  unfold zeroAll
  rw [if_pos ⟨p, hp, rfl, fun h => hj h.symm⟩]

/-- two free primitives in a 3×3 block: the sweep clears their rows in column 0 -/
example : let cols : Fin 3 → (Fin 3 → ℚ) := ![![1, 2, 3], ![0, 5, 0], ![0, 0, 7]]
    zeroAll cols [(1, 1), (2, 2)] 0 = ![1, 0, 0] := by
  intro cols
  decide

/-- a coefficient column as a vector indexed by the primitive number (zero beyond its end) -/
def vecOf (val : ν → ℚ) (c : List ν) : ℕ → ℚ := fun i => ((c[i]?).map val).getD 0

/-- the columns of a shell as a family indexed by the column number (the zero vector beyond the last column) -/
def famOf (val : ν → ℚ) (coefs : List (List ν)) : ℕ → (ℕ → ℚ) := fun j => vecOf val ((coefs[j]?).getD [])

def colVecs (val : ν → ℚ) (coefs : List (List ν)) : Set (ℕ → ℚ) := {v | ∃ c ∈ coefs, v = vecOf val c}

theorem vecOf_ne_zero {val : ν → ℚ} {c : List ν} {i : ℕ} (h : vecOf val c i ≠ 0) : ∃ x, c[i]? = some x ∧ val x ≠ 0 := by
  unfold vecOf at h
  cases hi : c[i]? with
  | none => rw [hi] at h; exact absurd rfl h
  | some x => rw [hi] at h; exact ⟨x, rfl, h⟩

theorem famOf_of_getElem? {val : ν → ℚ} {coefs : List (List ν)} {j : ℕ} {c : List ν} (h : coefs[j]? = some c) :
    famOf val coefs j = vecOf val c := by
  unfold famOf; rw [h]; rfl

open Submodule in
theorem span_famOf (val : ν → ℚ) (coefs : List (List ν)) :
    span ℚ (Set.range (famOf val coefs)) = span ℚ (colVecs val coefs) := by
  apply le_antisymm
  · rw [span_le]
    rintro _ ⟨j, rfl⟩
    cases hj : coefs[j]? with
    | none =>
      have : famOf val coefs j = 0 := by unfold famOf; rw [hj]; rfl
      rw [this]; exact zero_mem _
    | some c => exact subset_span ⟨c, List.mem_of_getElem? hj, famOf_of_getElem? hj⟩
  · rw [span_le]
    rintro _ ⟨c, hc, rfl⟩
    obtain ⟨j, hj, rfl⟩ := List.mem_iff_getElem.1 hc
    exact subset_span ⟨j, famOf_of_getElem? (List.getElem?_eq_getElem hj)⟩

/-- the matrix `optimizeShell` builds before it drops the emptied columns -/
def zeroedOf (val : ν → ℚ) (zero : ν) (coefs : List (List ν)) (pairs : List (ℕ × ℕ)) : List (List ν) :=
  coefs.zipIdx.map fun pc =>
    pc.1.zipIdx.map fun ce =>
      if val ce.1 != 0 ∧ pairs.any (fun p => p.1 = ce.2 ∧ p.2 ≠ pc.2) then zero else ce.1

theorem getElem?_zipIdx_map {α β : Type} (l : List α) (f : α × ℕ → β) (i : ℕ) :
    (l.zipIdx.map f)[i]? = l[i]?.map fun x => f (x, i) := by
  rw [List.getElem?_map, List.getElem?_zipIdx, Option.map_map, Nat.zero_add]
  rfl

theorem famOf_zeroedOf (val : ν → ℚ) (zero : ν) (hz : val zero = 0) (coefs : List (List ν)) (pairs : List (ℕ × ℕ)) :
    famOf val (zeroedOf val zero coefs pairs) = zeroAll (famOf val coefs) pairs := by
  funext j i
  rw [zeroAll_apply]
  unfold famOf zeroedOf vecOf
  rw [getElem?_zipIdx_map]
  cases coefs[j]? with
  | none => exact (ite_self _).symm
  | some col =>
    simp only [Option.map_some, Option.getD_some]
    rw [getElem?_zipIdx_map]
    cases col[i]? with
    | none => exact (ite_self _).symm
    | some x =>
      simp only [Option.map_some, Option.getD_some]
      -- where `x` is zero already it makes no difference whether the zero literal is written over it
      by_cases hx : val x = 0
      · rw [if_neg fun h => bne_iff_ne.1 h.1 hx, hx, ite_self]
      · rw [apply_ite val, hz]
        refine if_congr ((and_iff_right (bne_iff_ne.2 hx)).trans ?_) rfl rfl
        simp only [List.any_eq_true, decide_eq_true_eq]

theorem two_le_length_filter {α : Type} (p : α → Bool) (l : List α) {r i : ℕ} {x y : α} (hr : l[r]? = some x)
    (hi : l[i]? = some y) (hx : p x = true) (hy : p y = true) (hne : r ≠ i) : 2 ≤ (l.filter p).length := by
  wlog hlt : r < i generalizing r i x y
  · exact this hi hr hy hx hne.symm (by omega)
  have h1 : x ∈ (l.take i).filter p :=
    List.mem_filter.2 ⟨List.mem_of_getElem? (i := r) (by rw [List.getElem?_take, if_pos hlt, hr]), hx⟩
  have h2 : y ∈ (l.drop i).filter p :=
    List.mem_filter.2 ⟨List.mem_of_getElem? (i := 0) (by rw [List.getElem?_drop]; exact hi), hy⟩
  rw [← List.take_append_drop i l, List.filter_append, List.length_append]
  exact Nat.add_le_add (List.length_pos_of_mem h1) (List.length_pos_of_mem h2)

theorem mem_nonzeroRows (val : ν → ℚ) (col : List ν) (r : ℕ) (h : r ∈ nonzeroRows val col) :
    ∃ x, col[r]? = some x ∧ val x ≠ 0 := by
  obtain ⟨p, hp, rfl⟩ := List.mem_map.1 h
  obtain ⟨hm, hnz⟩ := List.mem_filter.1 hp
  exact ⟨p.1, List.mem_zipIdx_iff_getElem?.1 hm, bne_iff_ne.1 hnz⟩

/-- every pair `optimize_general` collects names a column whose only non-zero entry sits in the pair's row -/
theorem rowColPairs_single (val : ν → ℚ) (coefs : List (List ν)) :
    ∀ p ∈ rowColPairs val coefs, (∀ i, i ≠ p.1 → famOf val coefs p.2 i = 0) ∧ famOf val coefs p.2 p.1 ≠ 0 := by
  intro p hp
  obtain ⟨cs, hcs, hp'⟩ := List.mem_flatMap.1 hp
  obtain ⟨hm, hsingle⟩ := List.mem_filter.1 hcs
  obtain ⟨r, hr, rfl⟩ := List.mem_map.1 hp'
  obtain ⟨x, hx, hxn⟩ := mem_nonzeroRows val cs.1 r hr
  rw [famOf_of_getElem? (List.mem_zipIdx_iff_getElem?.1 hm)]
  refine ⟨fun i hi => Classical.byContradiction fun hne => ?_, by unfold vecOf; rw [hx]; exact hxn⟩
  -- a second non-zero entry, in row `i`, would make two in a column that has one
  obtain ⟨y, hy, hyn⟩ := vecOf_ne_zero hne
  have := two_le_length_filter (fun c => val c != 0) cs.1 hy hx (bne_iff_ne.2 hyn) (bne_iff_ne.2 hxn) hi
  rw [beq_iff_eq.1 hsingle] at this
  exact absurd this (by decide)

open Submodule in
/-- dropping the columns that are zero everywhere does not change the span -/
theorem span_filter_nonzero (val : ν → ℚ) (Z : List (List ν)) :
    span ℚ (colVecs val (Z.filter fun col => col.any (fun c => val c != 0))) = span ℚ (colVecs val Z) := by
  apply le_antisymm
  · apply span_mono
    rintro _ ⟨c, hc, rfl⟩
    exact ⟨c, (List.mem_filter.1 hc).1, rfl⟩
  · rw [span_le]
    rintro _ ⟨c, hc, rfl⟩
    by_cases hnz : c.any (fun x => val x != 0) = true
    · exact subset_span ⟨c, List.mem_filter.2 ⟨hc, hnz⟩, rfl⟩
    · have hzero : vecOf val c = 0 := funext fun i => Classical.byContradiction fun hne =>
        let ⟨x, hx, hxn⟩ := vecOf_ne_zero hne
        hnz (List.any_eq_true.2 ⟨x, List.mem_of_getElem? hx, bne_iff_ne.2 hxn⟩)
      rw [hzero]; exact zero_mem _

theorem optimizeShell_ok {val : ν → ℚ} {zero : ν} {sh sh' : Shell ν} (h : optimizeShell val zero sh = .ok sh') :
    sh' = sh ∨ ((rowColPairs val sh.coefs).map (·.1)).Nodup ∧
      sh'.coefs = (zeroedOf val zero sh.coefs (rowColPairs val sh.coefs)).filter fun col => col.any (fun c => val c != 0) := by
  unfold optimizeShell at h
  split at h
  · cases h; exact Or.inl rfl
  · simp only at h
    split at h
    · cases h
    · rename_i hnd
      cases h
      exact Or.inr ⟨Decidable.not_not.1 hnd, rfl⟩

open Submodule in
/-- **`optimize_general` on one shell keeps the linear span of its contractions** — the list-level function of the
model (the one the driver runs against `manip.optimize_general`), for every shell it accepts: the sweep over all
free primitives and the dropping of emptied contractions included -/
theorem optimizeShell_span (val : ν → ℚ) (zero : ν) (hz : val zero = 0) (sh sh' : Shell ν)
    (h : optimizeShell val zero sh = .ok sh') :
    span ℚ (colVecs val sh'.coefs) = span ℚ (colVecs val sh.coefs) := by
  rcases optimizeShell_ok h with rfl | ⟨hnd, hc⟩
  · rfl
  · rw [hc, span_filter_nonzero, ← span_famOf, famOf_zeroedOf val zero hz,
      span_zeroAll _ _ (rowColPairs_single val sh.coefs) hnd, span_famOf]

def nnz (val : ν → ℚ) (coefs : List (List ν)) : ℕ := (coefs.map fun col => (col.filter fun c => val c != 0).length).sum

theorem nnz_col_le (val : ν → ℚ) (zero : ν) (hz : val zero = 0) (P : ν × ℕ → Prop) [DecidablePred P] (col : List ν) :
    ((col.zipIdx.map fun ce => if P ce then zero else ce.1).filter fun c => val c != 0).length
      ≤ (col.filter fun c => val c != 0).length := by
  rw [← List.countP_eq_length_filter, ← List.countP_eq_length_filter, List.countP_map]
  conv => rhs; rw [← List.zipIdx_map_fst 0 col, List.countP_map]
  refine List.countP_mono_left fun ce _ h => ?_
  simp only [Function.comp] at h ⊢
  split at h
  · rw [hz] at h; exact absurd h (by decide)
  · exact h

/-- **`optimize_general` never has more non-zero coefficients than the general-contracted shell it starts from**: entries are
only ever replaced by the zero literal, and contractions are only ever dropped -/
theorem optimizeShell_nnz_le (val : ν → ℚ) (zero : ν) (hz : val zero = 0) (sh sh' : Shell ν)
    (h : optimizeShell val zero sh = .ok sh') : nnz val sh'.coefs ≤ nnz val sh.coefs := by
  rcases optimizeShell_ok h with rfl | ⟨-, hc⟩
  · exact Nat.le_refl _
  · unfold nnz
    rw [hc]
    refine Nat.le_trans ((List.filter_sublist.map _).sum_le_sum fun _ _ => Nat.zero_le _) ?_
    conv => rhs; rw [← List.zipIdx_map_fst 0 sh.coefs]
    rw [zeroedOf, List.map_map, List.map_map]
    exact List.sum_le_sum fun pc _ => nnz_col_le val zero hz _ pc.1

/-- the literal written by the zeroing step is a zero (read from the source) -/
theorem ogZero_is_zero : numVal BSE.Gen.Manip.ogZero = 0 := by decide +kernel
/-- `optimize_general` first makes the basis general with `skip_spdf = True` (read from the source) -/
theorem optimizeGeneral_calls : BSE.Gen.Manip.optimizeGeneralCalls = [⟨.makeGeneral true, false⟩] := by decide

/-- in `get_basis`, remove_free_primitives runs before optimize_general, which runs before the
uncontraction flags; each requests the final prune, and the duplicate one-primitive shells that
`uncontract_segmented` leaves behind are pruned at once -/
theorem getBasis_primitive_blocks :
    (BSE.Gen.Api.optionBlocks.take 3).map (fun b => (b.cond, b.steps.map (·.op), b.setsPrune, b.isElif))
      = [("remove_free_primitives", [.removeFree], true, false), ("optimize_general", [.optimizeGeneral], true, false),
         ("uncontract_segmented", [.uncontractSegmented, .pruneBasis], true, false)] := rfl

def demo : List (Shell String) :=
  [{ am := [0], ftype := "gto", region := "", exps := ["3.0", "2.0", "1.0"],
     coefs := [["0.5", "0.5", "0.1"], ["0.0", "0.0", "1.0"]] }]

example : (∀ sh ∈ demo, sh.am.length = 1) ∧ (removeFreeCore numVal demo).map (·.coefs.length) = [1]
    ∧ (uncontractSegmented "1.0" demo).length = 3 := by decide +kernel

end BSE.Props.C07
