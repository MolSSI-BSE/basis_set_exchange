import BSEModel.Nwchem
import BSEProofs.Lemmas.MapEx

/-! # NWChem electron section: reading what was written gives the shells back

Every section reader of the text formats has the same three stages, and so has every proof here and in the files that
follow: the text is cut into blocks at the reader's own line test, and the cut is a left inverse of laying blocks out
(`blocksR_blocks`); each block is parsed on its own, so a parser that reads back every written block reads back the
list (`mapEx_map`, `mapR` being `mapEx`); what is parsed is regrouped by element (`fold_elements`). -/

namespace BSE.Nwchem
variable {ν : Type}

/-- a block as the reader cuts it (tokens of the head line, the rows under it), laid out as lines -/
def blockLines (b : List Str × List (List ν)) : List (Line ν) := .head b.1 :: b.2.map .row

theorem blocksR_rows (rs : List (List ν)) (rest : List (Line ν)) :
    blocksR (rs.map Line.row ++ rest) = (rs ++ (blocksR rest).1, (blocksR rest).2) := by
  induction rs with
  | nil => simp
  | cons r rs ih => simp [blocksR, ih]

theorem blocksR_blocks (bs : List (List Str × List (List ν))) : blocksR (bs.flatMap blockLines) = ([], bs) := by
  induction bs with
  | nil => rfl
  | cons b bs ih => simp [blockLines, blocksR, blocksR_rows, ih]

/-- only a head line of a single token can be the `END` line: the body of a section passes the reader's filter, its
last line does not -/
theorem filter_section (hd : Line ν) (bs : List (List Str × List (List ν))) (hhd : isEnd hd = false)
    (h : ∀ b ∈ bs, b.1.length ≠ 1) :
    (hd :: bs.flatMap blockLines ++ [Line.head ["END".toList]]).filter (fun l => !isEnd l) = hd :: bs.flatMap blockLines := by
  have hend : isEnd (Line.head (ν := ν) ["END".toList]) = true := by
    have : (lower "END".toList == "end".toList) = true := by decide +kernel
    simpa only [isEnd]
  have hbody : (bs.flatMap blockLines).filter (fun l => !isEnd l) = bs.flatMap blockLines := by
    apply List.filter_eq_self.2
    intro l hl
    obtain ⟨b, hb, hlb⟩ := List.mem_flatMap.1 hl
    rcases List.mem_cons.1 hlb with rfl | hlb
    · have := h b hb
      cases hb1 : b.1 with
      | nil => rfl
      | cons t ts =>
        cases ts with
        | nil => rw [hb1] at this; exact absurd rfl this
        | cons _ _ => rfl
    · obtain ⟨r, _, rfl⟩ := List.mem_map.1 hlb
      rfl
  simp only [List.filter_cons, List.filter_append, hhd, hbody, hend, Bool.not_false, Bool.not_true, if_true,
    Bool.false_eq_true, if_false, List.filter_nil, List.append_nil]

theorem parseMatrix_table (T : Tables ν) (rows : List (List ν)) (k : Nat) (ngen : Option Nat)
    (hne : rows ≠ []) (hk : 0 < k) (hlen : Rect (k + 1) rows)
    (hnum : ∀ r ∈ rows, ∀ x ∈ r, T.isNum x = true) (hgen : ∀ n, ngen = some n → n = k) :
    parseMatrix T rows ngen = .ok (rows.filterMap List.head?, zipStar (rows.map List.tail)) := by
  have h1 : rows.any (badRow T) = false := by
    apply List.any_eq_false.2
    intro r hr
    have hl := hlen r hr
    have hn := hnum r hr
    cases r with
    | nil => cases hl
    | cons e c => simp [badRow, hn e, List.all_eq_true.2 fun x hx => hn x (List.mem_cons_of_mem _ hx)]
  have hall : Rect k (rows.map List.tail) := hlen.tail
  have hhd : ((rows.map List.tail).headD []).length = k := by
    obtain ⟨r, rs, rfl⟩ := List.exists_cons_of_ne_nil hne
    exact hall _ (by simp)
  have h2 : (rows.map List.tail).any (fun c => c.isEmpty || c.length != ((rows.map List.tail).headD []).length) = false := by
    apply List.any_eq_false.2
    intro c hc
    have : c ≠ [] := fun h0 => by have := hall c hc; rw [h0] at this; simp at this; omega
    simp only [hhd, hall c hc, bne_self_eq_false, Bool.or_false]
    simpa using this
  have hcols : (zipStar (rows.map List.tail)).length = k := (zipStar_shape (by simpa using hne) hall).1
  have h3 : (rows.isEmpty || (zipStar (rows.map List.tail)).isEmpty) = false := by
    have : zipStar (rows.map List.tail) ≠ [] := fun h0 => by rw [h0] at hcols; simp at hcols; omega
    simp [hne, this]
  unfold parseMatrix
  simp only [h1, h2, h3, Bool.false_eq_true, if_false]
  cases ngen with
  | none => rfl
  | some n => simp [hcols, hgen n rfl]

/-- the well-formedness the writer's input has after `uncontract_spdf(1)` / `sort_basis` (and the validator's rules) -/
structure ShellOK (T : Tables ν) (sh : EShell ν) : Prop where
  exps_ne : 0 < sh.exps.length
  coefs_ne : sh.coefs ≠ []
  rect : Rect sh.exps.length sh.coefs
  nums : (∀ e ∈ sh.exps, T.isNum e = true) ∧ ∀ c ∈ sh.coefs, ∀ x ∈ c, T.isNum x = true
  am_rt : T.amOf (T.amStr sh.am) = some sh.am ∧ isAlphaStr (T.amStr sh.am) = true
  fused : sh.am.length > 1 → sh.coefs.length = sh.am.length

theorem am_letters_roundtrip (enc : Nat → Option Char) (dec : Char → Option Nat) (up : Char → Char)
    (amOf : Str → Option (List Nat)) (h0 : amOf [] = some [])
    (hstep : ∀ c cs, amOf (c :: cs) = match dec c, amOf cs with | some l, some ls => some (l :: ls) | _, _ => none)
    (am : List Nat) (hne : am ≠ []) (hl : ∀ l ∈ am, ∃ c, enc l = some c ∧ dec (up c) = some l ∧ (up c).isAlpha = true) :
    amOf ((am.filterMap enc).map up) = some am ∧ isAlphaStr ((am.filterMap enc).map up) = true := by
  have key : amOf ((am.filterMap enc).map up) = some am ∧ ((am.filterMap enc).map up).all Char.isAlpha = true := by
    clear hne
    induction am with
    | nil => simp [h0]
    | cons l ls ih =>
      obtain ⟨c, hc, hi, ha⟩ := hl l (by simp)
      obtain ⟨h1, h2⟩ := ih (fun l' hl' => hl l' (by simp [hl']))
      simp only [List.filterMap_cons, hc, List.map_cons, hstep, hi, h1, List.all_cons, ha, h2, Bool.and_self, and_self]
  refine ⟨key.1, ?_⟩
  rw [isAlphaStr, key.2, Bool.and_true]
  obtain ⟨l, ls, rfl⟩ := List.exists_cons_of_ne_nil hne
  obtain ⟨c, hc, _⟩ := hl l (by simp)
  simp [hc]

theorem ShellOK.rows_shape {T : Tables ν} {sh : EShell ν} (ok : ShellOK T sh) :
    (zipStar (sh.exps :: sh.coefs)).length = sh.exps.length
      ∧ ∀ r ∈ zipStar (sh.exps :: sh.coefs), r.length = sh.coefs.length + 1 :=
  zipStar_shape (rows := sh.exps :: sh.coefs) (by simp) (List.forall_mem_cons.2 ⟨rfl, ok.rect⟩)

theorem ShellOK.rows_ne {T : Tables ν} {sh : EShell ν} (ok : ShellOK T sh) : zipStar (sh.exps :: sh.coefs) ≠ [] :=
  fun h0 => by have := ok.rows_shape.1; rw [h0] at this; exact absurd this.symm (Nat.ne_of_gt ok.exps_ne)

/-- the table `zip(exps, *coefs)` the writers print is read back: transposing twice gives the shell back
(`zipStar_involutive`), and the reader's result is the transpose, split after its first row (`zipStar_step`) -/
theorem ShellOK.parseMatrix {T : Tables ν} {sh : EShell ν} (ok : ShellOK T sh) (ngen : Option Nat)
    (hgen : ∀ n, ngen = some n → n = sh.coefs.length) :
    parseMatrix T (zipStar (sh.exps :: sh.coefs)) ngen = .ok (sh.exps, sh.coefs) := by
  have hrect : Rect sh.exps.length (sh.exps :: sh.coefs) := List.forall_mem_cons.2 ⟨rfl, ok.rect⟩
  have hrow := ok.rows_shape.2
  have hinv := zipStar_involutive (by simp) hrect ok.exps_ne
  have hrow_ne : ∀ r ∈ zipStar (sh.exps :: sh.coefs), r ≠ [] := by
    intro r hr h0
    have hl := hrow r hr
    rw [h0] at hl
    cases hl
  rw [zipStar_step _ ok.rows_ne hrow_ne] at hinv
  injection hinv with hhead htail
  -- every token of a row comes from the exponents or from a column
  have hnum : ∀ r ∈ zipStar (sh.exps :: sh.coefs), ∀ x ∈ r, T.isNum x = true := by
    intro r hr x hx
    obtain ⟨c, hc, hxc⟩ := mem_of_mem_zipStar (by simp) hrect hr hx
    rcases List.mem_cons.1 hc with rfl | hc
    · exact ok.nums.1 x hxc
    · exact ok.nums.2 c hc x hxc
  rw [parseMatrix_table T _ sh.coefs.length ngen ok.rows_ne (List.length_pos_iff.2 ok.coefs_ne) hrow hnum hgen, hhead, htail]

/-- the shell the reader reconstructs -/
def toR (T : Tables ν) (spherical : Bool) (sh : EShell ν) : RShell ν :=
  { ftype := T.ftypeOf sh.am spherical, am := sh.am, exps := sh.exps, coefs := sh.coefs }

theorem parseBlock_shell (T : Tables ν) (spherical : Bool) (z : Nat) (sh : EShell ν) (ok : ShellOK T sh)
    (hz : T.zOf (T.symOf z) = some z ∧ isAlphaStr (T.symOf z) = true) :
    parseBlock T spherical ([T.symOf z, T.amStr sh.am], zipStar (sh.exps :: sh.coefs)) = .ok (z, toR T spherical sh) := by
  have hfused : ∀ n, (if sh.am.length > 1 then some sh.am.length else none) = some n → n = sh.coefs.length := by
    intro n hn
    split at hn
    · rename_i hf; cases hn; exact (ok.fused hf).symm
    · cases hn
  unfold parseBlock
  -- the reader's guards, in source order, each fall to one field of `ok`
  simp only [List.isEmpty_iff, ok.rows_ne, Bool.false_eq_true, if_false, hz.2, ok.am_rt.2, Bool.and_self, Bool.not_true,
    ok.am_rt.1, hz.1, ok.parseMatrix _ hfused, toR]

theorem mapR_eq {α β : Type} (f : α → Except RErr β) (l : List α) : mapR f l = mapEx f l := by
  induction l with
  | nil => rfl
  | cons a as ih =>
    simp only [mapR, mapEx, ih]
    cases f a with
    | error e => rfl
    | ok b => cases mapEx f as <;> rfl

theorem addShell_skip (acc rest : List (Nat × List (RShell ν))) (z : Nat) (sh : RShell ν) (h : z ∉ acc.map (·.1)) :
    addShell (acc ++ rest) z sh = acc ++ addShell rest z sh := by
  induction acc with
  | nil => rfl
  | cons a as ih =>
    have h0 : a.1 ≠ z := fun e => h (by simp [e])
    simp only [List.cons_append, addShell, h0, if_false, ih (fun hm => h (by simp [hm]))]

theorem fold_same_key (acc : List (Nat × List (RShell ν))) (z : Nat) (pre ss : List (RShell ν)) (h : z ∉ acc.map (·.1)) :
    (ss.map fun s => (z, s)).foldl (fun a zs => addShell a zs.1 zs.2) (acc ++ [(z, pre)]) = acc ++ [(z, pre ++ ss)] := by
  induction ss generalizing pre with
  | nil => simp
  | cons s ss ih => simp [addShell_skip acc _ z s h, addShell, ih]

theorem fold_element (acc : List (Nat × List (RShell ν))) (z : Nat) (ss : List (RShell ν)) (hne : ss ≠ [])
    (h : z ∉ acc.map (·.1)) :
    (ss.map fun s => (z, s)).foldl (fun a zs => addShell a zs.1 zs.2) acc = acc ++ [(z, ss)] := by
  obtain ⟨s, ss, rfl⟩ := List.exists_cons_of_ne_nil hne
  have h1 : addShell acc z s = acc ++ [(z, [s])] := by simpa [addShell] using addShell_skip acc [] z s h
  simpa [h1] using fold_same_key acc z [s] ss h

theorem fold_elements {σ : Type} (g : σ → RShell ν) (els : List (Nat × List σ)) :
    ∀ (acc : List (Nat × List (RShell ν))), (acc.map (·.1) ++ els.map (·.1)).Nodup → (∀ e ∈ els, e.2 ≠ []) →
      (els.flatMap fun e => e.2.map fun s => (e.1, g s)).foldl (fun a zs => addShell a zs.1 zs.2) acc
        = acc ++ els.map fun e => (e.1, e.2.map g) := by
  induction els with
  | nil => intro acc _ _; simp
  | cons e es ih =>
    intro acc hnd hne
    have hz : e.1 ∉ acc.map (·.1) := fun hm => (List.nodup_append.1 hnd).2.2 e.1 hm e.1 (by simp) rfl
    have hs : (e.2.map fun s => (e.1, g s)) = (e.2.map g).map fun s => (e.1, s) := by simp
    rw [List.flatMap_cons, List.foldl_append, hs, fold_element acc e.1 _ (by simpa using hne e (by simp)) hz,
      ih (acc ++ [(e.1, e.2.map g)]) (by simpa using hnd) (fun e' he' => hne e' (by simp [he']))]
    simp

theorem readElectron_write (T : Tables ν) (harm : Str) (els : List (Nat × List (EShell ν)))
    (hharm : harm = "SPHERICAL".toList ∨ harm = "CARTESIAN".toList)
    (hnd : (els.map (·.1)).Nodup) (hne : ∀ e ∈ els, e.2 ≠ [])
    (hz : ∀ e ∈ els, T.zOf (T.symOf e.1) = some e.1 ∧ isAlphaStr (T.symOf e.1) = true)
    (hok : ∀ e ∈ els, ∀ sh ∈ e.2, ShellOK T sh) :
    readElectron T (electronLines T harm els)
      = .ok (els.map fun e => (e.1, e.2.map (toR T (harm == "SPHERICAL".toList)))) := by
  -- the body of the section is one block per (element, shell)
  have hbody : (els.flatMap fun e => e.2.flatMap (shellLines T e.1))
      = ((els.flatMap fun e => e.2.map fun sh => (e.1, sh)).map fun p : Nat × EShell ν =>
          ([T.symOf p.1, T.amStr p.2.am], zipStar (p.2.exps :: p.2.coefs))).flatMap blockLines := by
    simp only [List.flatMap_map, List.flatMap_assoc]
    rfl
  have hbasis : (!("basis".toList.isPrefixOf (lower "BASIS".toList))) = false := by decide +kernel
  have hsph : ∀ harm ∈ ["SPHERICAL".toList, "CARTESIAN".toList],
      (["BASIS".toList, "\"ao".toList, "basis\"".toList, harm, "PRINT".toList].any fun t => hasSub "spherical".toList (lower t))
        = (harm == "SPHERICAL".toList) := by decide +kernel
  have hsph := hsph harm (List.mem_cons.2 (hharm.imp_right List.mem_singleton.2))
  unfold readElectron electronLines
  rw [hbody, filter_section _ _ rfl (by intro b hb; obtain ⟨p, _, rfl⟩ := List.mem_map.1 hb; simp)]
  simp only [hbasis, Bool.false_eq_true, if_false, hsph, blocksR_blocks, List.isEmpty_nil, Bool.not_true]
  rw [mapR_eq, mapEx_map (parseBlock T (harm == "SPHERICAL".toList)) _ (fun p => (p.1, toR T (harm == "SPHERICAL".toList) p.2))]
  · simp only [List.map_flatMap, List.map_map, Function.comp_def]
    rw [fold_elements (toR T (harm == "SPHERICAL".toList)) els [] (by simpa using hnd) hne]
    rfl
  · intro p hp
    obtain ⟨e, he, hpe⟩ := List.mem_flatMap.1 hp
    obtain ⟨sh, hsh, rfl⟩ := List.mem_map.1 hpe
    exact parseBlock_shell T _ e.1 sh (hok e he sh hsh) (hz e he)

end BSE.Nwchem
