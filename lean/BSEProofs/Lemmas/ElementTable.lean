import BSEModel.Notation
/-! The element table `dataTable` (regenerated from `lut.py`), read once.

`lut.py` builds its dictionaries with `{x[k]: x for x in _data_table}`, so a key that occurs twice (old symbols, alternative
spellings of a name) resolves to the last row.  Three kernel sweeps establish what the look-ups do on the current table
(a fourth, `letter_table`, does the same for the two angular-momentum letter tables); everything else about symbols, names
and atomic numbers follows from them by argument. -/
namespace BSE.Notation
open BSE.Gen.Lut

theorem lastRow_some {p : Row → Bool} {r : Row} (h : lastRow p = some r) : r ∈ dataTable ∧ p r = true :=
  ⟨List.mem_reverse.1 (List.mem_of_find?_eq_some h), List.find?_some h⟩

theorem lastRow_isSome {p : Row → Bool} {r : Row} (hr : r ∈ dataTable) (hp : p r = true) : (lastRow p).isSome = true :=
  List.find?_isSome.2 ⟨r, List.mem_reverse.2 hr, hp⟩

/-- one row: symbol and name are in lower case, so the look-ups ignore the case of what they are given; the symbol is
alphabetic, also capitalised -/
structure RowCase (r : Row) : Prop where
  sym : lowerAscii r.1 = r.1
  cap : lowerAscii (capitalize r.1) = r.1
  upper : lowerAscii (r.1.map Char.toUpper) = r.1
  name : lowerAscii r.2.2 = r.2.2
  ne : r.1 ≠ []
  alpha : r.1.all Char.isAlpha = true
  capAlpha : (capitalize r.1).all Char.isAlpha = true

theorem table_case (r : Row) (hr : r ∈ dataTable) : RowCase r :=
  have h : ∀ r ∈ dataTable, lowerAscii r.1 = r.1 ∧ lowerAscii (capitalize r.1) = r.1
      ∧ lowerAscii (r.1.map Char.toUpper) = r.1 ∧ lowerAscii r.2.2 = r.2.2 ∧ r.1 ≠ []
      ∧ r.1.all Char.isAlpha = true ∧ (capitalize r.1).all Char.isAlpha = true := by decide +kernel
  have ⟨h1, h2, h3, h4, h5, h6, h7⟩ := h r hr
  ⟨h1, h2, h3, h4, h5, h6, h7⟩

/-- a symbol or a name that occurs in several rows has the same atomic number in all of them -/
theorem table_keys : ∀ r ∈ dataTable,
    (rowOfSym r.1).map (·.2.1) = some r.2.1 ∧ (rowOfName r.2.2).map (·.2.1) = some r.2.1 := by
  decide +kernel

theorem table_Z : ∀ z ∈ List.range' 1 118, (rowOfZ z).isSome = true := by decide +kernel

theorem zFromSym_row {r : Row} (hr : r ∈ dataTable) {s : Str} (hs : lowerAscii s = r.1) : zFromSym s = some r.2.1 := by
  unfold zFromSym; rw [hs]; exact (table_keys r hr).1

theorem zFromName_row {r : Row} (hr : r ∈ dataTable) {s : Str} (hs : lowerAscii s = r.2.2) : zFromName s = some r.2.1 := by
  unfold zFromName; rw [hs]; exact (table_keys r hr).2

theorem rowOfZ_some {z : Nat} (h : (rowOfZ z).isSome = true) : ∃ r ∈ dataTable, rowOfZ z = some r ∧ r.2.1 = z := by
  obtain ⟨r, hr⟩ := Option.isSome_iff_exists.1 h
  have := lastRow_some hr
  exact ⟨r, this.1, hr, by simpa using this.2⟩

theorem rowOfZ_mem {r : Row} (hr : r ∈ dataTable) : ∃ r' ∈ dataTable, rowOfZ r.2.1 = some r' ∧ r'.2.1 = r.2.1 :=
  rowOfZ_some (lastRow_isSome hr (by simp))

theorem rowOfZ_range {z : Nat} (hz : z ∈ List.range' 1 118) : ∃ r ∈ dataTable, rowOfZ z = some r ∧ r.2.1 = z :=
  rowOfZ_some (table_Z z hz)

/-- `s` is the symbol of `z`, and every spelling of it that a writer prints is read back as `z`: as in the table,
capitalised, in upper case, and (`lower`) lower-cased again, as the readers do before they look up -/
structure Spelled (z : Nat) (s : Str) : Prop where
  sym : symFromZ z = some s
  ne : s ≠ []
  capAlpha : (capitalize s).all Char.isAlpha = true
  plain : zFromSym s = some z
  cap : zFromSym (capitalize s) = some z
  upper : zFromSym (s.map Char.toUpper) = some z
  lower : zFromSym (lowerAscii (capitalize s)) = some z

theorem symbol_spellings {z : Nat} (hz : z ∈ List.range' 1 118) : ∃ s, Spelled z s := by
  obtain ⟨r, hr, hrow, rfl⟩ := rowOfZ_range hz
  have c := table_case r hr
  exact ⟨r.1, by simp [symFromZ, hrow], c.ne, c.capAlpha, zFromSym_row hr c.sym, zFromSym_row hr c.cap,
    zFromSym_row hr c.upper, zFromSym_row hr (by rw [c.cap, c.sym])⟩

theorem letter_table : ∀ hij : Bool, ∀ l ∈ List.range (amTable hij).length, ∃ c, amChar hij l = some c
    ∧ amInt hij c = some l ∧ amInt hij c.toUpper = some l ∧ c.isAlpha = true ∧ c.toUpper.isAlpha = true := by
  decide +kernel

/-- in either convention the letter of a momentum is read back as that momentum -/
theorem amInt_amChar : ∀ hij : Bool, ∀ l ∈ List.range 25, (amChar hij l).bind (amInt hij) = some l := by
  intro hij l hl
  have hlen : 25 ≤ (amTable hij).length := by cases hij <;> decide
  obtain ⟨c, hchar, hint, _⟩ := letter_table hij l (List.mem_range.2 (Nat.lt_of_lt_of_le (List.mem_range.1 hl) hlen))
  rw [hchar]
  exact hint

theorem alpha_toNat {c : Char} (h : c.isAlpha = true) :
    (65 ≤ c.toNat ∧ c.toNat ≤ 90) ∨ (97 ≤ c.toNat ∧ c.toNat ≤ 122) := by
  simp only [Char.isAlpha, Char.isUpper, Char.isLower, Bool.or_eq_true, Bool.and_eq_true, decide_eq_true_eq,
    UInt32.le_iff_toNat_le] at h
  simpa using h

/-- a letter is a plain character of the compact element notation (the four conditions of `Word.plain`) -/
theorem alpha_plain {c : Char} (h : c.isAlpha = true) :
    c ≠ ',' ∧ c ≠ '-' ∧ isPySpace c = false ∧ isWord c = true := by
  have hb := alpha_toNat h
  refine ⟨?_, ?_, ?_, by simp [isWord, Char.isAlphanum, h]⟩
  · rintro rfl; revert hb; decide
  · rintro rfl; revert hb; decide
  · simp [isPySpace, Char.ext_iff, ← UInt32.toNat_inj]; omega

theorem alpha_not_digit {c : Char} (h : c.isAlpha = true) : c.isDigit = false := by
  have hb := alpha_toNat h
  simp [Char.isDigit, UInt32.le_iff_toNat_le]; omega

end BSE.Notation
