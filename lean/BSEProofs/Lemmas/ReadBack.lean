import BSEProofs.Lemmas.Splitlines

/-! # A line-pruning reader does not see the header

Every reader starts with `lines = text.splitlines()` and `helpers.prune_lines(lines, skipchars)`: strip every line, drop the
blank ones and the ones whose first character is one of `skipchars`.  If the comment marker of the format starts with such a
character, the lines of the header block all disappear, and so do the blank lines that separate it from the data. -/

namespace BSE.Header
open BSE.Notation (isPySpace)

theorem pruneLines_append (skip : List Char) (a b : List Str) : pruneLines skip (a ++ b) = pruneLines skip a ++ pruneLines skip b := by
  simp [pruneLines, List.map_append, List.filter_append]

theorem Closed.ne_nil {l X : Str} (h : Closed l X) : l ≠ [] := by
  obtain ⟨w, _, ⟨b, _, _, rfl⟩ | rfl⟩ := h <;> simp

theorem Lines.ne_nil {ls : List Str} (h : Lines ls) : ∀ l ∈ ls, l ≠ [] := by
  induction h with
  | nil => intro l hl; cases hl
  | last w _ hne => intro l hl; rw [List.mem_singleton.1 hl]; exact hne
  | cons l ls hl _ ih =>
    intro x hx
    rcases List.mem_cons.1 hx with rfl | hx
    · exact hl.ne_nil
    · exact ih x hx

/-- more text behind a closed line leaves it closed, if the text so far ends with a line feed (so not with the line's own `\r`) -/
theorem Closed.append {l X : Str} (h : Closed l X) (B : Str) (hlf : (l ++ X).getLast? = some '\n') : Closed l (X ++ B) := by
  obtain ⟨w, hw, ⟨b, hb, hn, rfl⟩ | rfl⟩ := h
  · refine ⟨w, hw, Or.inl ⟨b, hb, fun hbr r hr => ?_, rfl⟩⟩
    cases X with
    | nil => rw [hbr] at hlf; simp at hlf
    | cons x t => exact hn hbr t (by rw [(List.cons.inj hr).1])
  · exact ⟨w, hw, Or.inr rfl⟩

theorem splitAux_lines_append {ls : List Str} (h : Lines ls) (B : Str) (hlf : ls ≠ [] → ls.flatten.getLast? = some '\n') :
    splitAux (ls.flatten ++ B) [] = ls ++ splitAux B [] := by
  induction h with
  | nil => rfl
  | last w hw hne =>
    have := hw '\n' (List.mem_of_getLast? (by simpa using hlf (by simp)))
    simp [isBreak] at this
  | cons l ls hl hls ih =>
    have hlf' := hlf (by simp)
    rw [List.flatten_cons] at hlf' ⊢
    rw [List.append_assoc, splitAux_closed (hl.append B hlf'), ih fun hne => ?_]
    · rfl
    · -- the lines that follow are not empty, so the text ends as they do
      obtain ⟨l', hl'⟩ := List.exists_mem_of_ne_nil ls hne
      have hf : ls.flatten ≠ [] := List.flatten_ne_nil_iff.2 ⟨l', hl', hls.ne_nil l' hl'⟩
      rw [List.getLast?_append] at hlf'
      cases hq : ls.flatten.getLast? with
      | none => exact absurd (List.getLast?_eq_none_iff.1 hq) hf
      | some ch => simpa [hq] using hlf'

theorem splitlinesKeep_append_lf (A B : Str) (h : A.getLast? = some '\n') :
    splitlinesKeep (A ++ B) = splitlinesKeep A ++ splitlinesKeep B := by
  obtain ⟨hl, hf⟩ := lines_splitlinesKeep A
  have := splitAux_lines_append hl B (fun _ => by rw [hf]; exact h)
  rwa [hf] at this


theorem stripLine_head {x : Char} (hx : isPySpace x = false) (xs : Str) : ∃ t, stripLine (x :: xs) = x :: t := by
  unfold stripLine
  rw [show (x :: xs).dropWhile isPySpace = x :: xs by simp [List.dropWhile, hx], List.reverse_cons, List.dropWhile_append]
  split
  · exact ⟨[], by simp [List.dropWhile, hx]⟩
  · exact ⟨(xs.reverse.dropWhile isPySpace).reverse, by simp⟩

theorem pruneLines_marked (skip : List Char) (c : Str) (c0 : Char) (cs : Str) (hc : c = c0 :: cs)
    (hskip : skip.contains c0 = true) (hsp : isPySpace c0 = false) (lines : List Str)
    (h : ∀ l ∈ lines, c.isPrefixOf l = true) : pruneLines skip lines = [] := by
  unfold pruneLines
  rw [(List.filter_eq_nil_iff (l := lines.map stripLine)).2]
  · rfl
  · intro l hl
    obtain ⟨l0, hl0, rfl⟩ := List.mem_map.1 hl
    obtain ⟨rest, rfl⟩ := List.isPrefixOf_iff_prefix.1 (h l0 hl0)
    obtain ⟨t, ht⟩ := stripLine_head hsp (cs ++ rest)
    rw [hc, List.cons_append, ht]
    simpa using hskip

theorem readerLines_lf_lf (skip : List Char) (body : Str) :
    readerLines skip ('\n' :: '\n' :: body) = readerLines skip body := by
  unfold readerLines
  rw [show '\n' :: '\n' :: body = ['\n', '\n'] ++ body from rfl, splitlinesKeep_append_lf _ _ (by simp), pruneLines_append,
    show splitlinesKeep ['\n', '\n'] = [['\n'], ['\n']] by decide]
  simp [pruneLines, stripLine, List.dropWhile, isPySpace]

theorem getLast?_flatten_prefixed (c : Str) (ls : List Str) (hne : ∀ l ∈ ls, l ≠ []) :
    (ls.map (c ++ ·)).flatten.getLast? = ls.flatten.getLast? := by
  induction ls with
  | nil => rfl
  | cons l ls ih =>
    have hl : l ≠ [] := hne l (by simp)
    simp only [List.map_cons, List.flatten_cons, List.getLast?_append, ih fun x hx => hne x (by simp [hx])]
    cases hq : l.getLast? with
    | none => exact absurd (List.getLast?_eq_none_iff.1 hq) hl
    | some ch => simp

theorem commentBlock_last (c h : Str) (hne : h ≠ []) : (commentBlock c h).getLast? = h.getLast? := by
  obtain ⟨hl, hf⟩ := lines_splitlinesKeep h
  unfold commentBlock
  rw [joinWith_prefixed c _ (splitlinesKeep_ne_nil h hne), getLast?_flatten_prefixed c _ hl.ne_nil, hf]

theorem readerLines_headed (skip : List Char) (c : Str) (c0 : Char) (cs : Str) (hc : c = c0 :: cs)
    (hskip : skip.contains c0 = true) (hsp : isPySpace c0 = false) (hnb : NoBreak c)
    (h : Str) (hlf : h.getLast? = some '\n') (pre sep body : Str)
    (hpre : pre = [] ∨ pre.getLast? = some '\n') (hsep : sep = [] ∨ sep = ['\n', '\n']) :
    readerLines skip (pre ++ commentBlock c h ++ sep ++ body) = readerLines skip (pre ++ body) := by
  have hne : h ≠ [] := fun h0 => by simp [h0] at hlf
  have key : readerLines skip (commentBlock c h ++ (sep ++ body)) = readerLines skip body := by
    -- the block ends with a line feed, so it is split on its own, and all its lines are pruned
    unfold readerLines
    rw [splitlinesKeep_append_lf _ _ (by rw [commentBlock_last c h hne]; exact hlf), pruneLines_append,
      pruneLines_marked skip c c0 cs hc hskip hsp _ (commentBlock_lines_marked c hnb (by rw [hc]; simp) h hne), List.nil_append]
    rcases hsep with rfl | rfl
    · rfl
    · exact readerLines_lf_lf skip body
  rw [List.append_assoc, List.append_assoc]
  rcases hpre with rfl | hp
  · exact key
  · unfold readerLines at *
    rw [splitlinesKeep_append_lf pre _ hp, splitlinesKeep_append_lf pre body hp, pruneLines_append, pruneLines_append, key]

end BSE.Header
