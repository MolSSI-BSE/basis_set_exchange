import BSEModel.G94Inst
/-! Decimal numerals as the writers print them (`str(n)`) are read back by the readers' `int(...)`: for every `n`. -/
namespace BSE.G94

theorem digitsVal_eq (ds : List Char) : BSE.digitsVal ds = Nat.ofDigitChars 10 ds 0 := by
  unfold BSE.digitsVal Nat.ofDigitChars
  congr 1; funext acc c; rw [Nat.mul_comm]

theorem natOfStr_toString (n : Nat) : natOfStr (toString n).toList = some n := by
  have hd : ∀ c ∈ Nat.toDigits 10 n, c.isDigit = true := fun c hc => Nat.isDigit_of_mem_toDigits (by decide) (by decide) hc
  have hne : (Nat.toDigits 10 n).isEmpty = false := by simp [Nat.toDigits_ne_nil]
  rw [Nat.toString_eq_repr, Nat.toList_repr]
  simp [natOfStr, hne, List.all_eq_true.2 hd, digitsVal_eq]

theorem intOfStr_of_natOfStr {s : List Char} {n : Nat} (h : natOfStr s = some n) : intOfStr s = some (n : Int) := by
  unfold intOfStr
  split
  · simp [natOfStr] at h
  · simp [natOfStr] at h
  · simp [h]

theorem intOfStr_toString (n : Nat) : intOfStr (toString n).toList = some (n : Int) :=
  intOfStr_of_natOfStr (natOfStr_toString n)

end BSE.G94
