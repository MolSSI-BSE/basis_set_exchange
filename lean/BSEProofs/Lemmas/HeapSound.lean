import BSEModel.Heap
/-! Soundness of the ownership check of `BSEModel/Heap.lean`: an accepted body never writes to a
container of the caller and never returns a value from which one can be reached. -/
namespace BSE.Heap

theorem testBit_bit (x v : Var) : (bit x).testBit v = decide (x = v) := by
  unfold bit
  rw [Nat.testBit_two_pow]

theorem testBit_clr (m : Nat) (x v : Var) : (clr m x).testBit v = (m.testBit v && !decide (x = v)) := by
  unfold clr
  rw [Nat.testBit_xor, Nat.testBit_and, testBit_bit]
  cases m.testBit v <;> cases decide (x = v) <;> rfl

theorem testBit_put (m : Nat) (x : Var) (b : Bool) (v : Var) :
    (if b then m ||| bit x else clr m x).testBit v = if v = x then b else m.testBit v := by
  by_cases hv : v = x
  · subst hv
    cases b <;> simp [testBit_clr, testBit_bit]
  · have hv' : ¬ x = v := fun h => hv h.symm
    cases b <;> simp [testBit_clr, testBit_bit, hv, hv']

theorem rcB_eq (a : Abs) (v : Var) : a.rcB v = (a.rc.testBit v != a.neg) := by
  unfold Abs.rcB
  cases a.neg <;> cases a.rc.testBit v <;> rfl

theorem ptB_set (a : Abs) (x : Var) (p r : Bool) (v : Var) :
    (a.set x p r).ptB v = if v = x then p else a.ptB v := testBit_put a.pt x p v

theorem rcB_set (a : Abs) (x : Var) (p r : Bool) (v : Var) :
    (a.set x p r).rcB v = if v = x then r else a.rcB v := by
  rw [rcB_eq, rcB_eq]
  show ((if (r != a.neg) then a.rc ||| bit x else clr a.rc x).testBit v != a.neg) = _
  rw [testBit_put, apply_ite (· != a.neg)]
  cases r <;> cases a.neg <;> rfl

theorem rcB_taintAll (a : Abs) (v : Var) : a.taintAll.rcB v = true := by
  simp [Abs.taintAll, Abs.rcB]

theorem ptB_join (a b : Abs) (v : Var) : (a.join b).ptB v = (a.ptB v || b.ptB v) := by
  simp [Abs.join, Abs.ptB, Nat.testBit_or]

theorem rcB_join (a b : Abs) (v : Var) : (a.join b).rcB v = (a.rcB v || b.rcB v) := by
  unfold Abs.join Abs.rcB
  cases ha : a.neg <;> cases hb : b.neg <;> simp [Nat.testBit_or, Nat.testBit_and, Nat.testBit_xor] <;>
    cases a.rc.testBit v <;> cases b.rc.testBit v <;> rfl

theorem testBit_of_and_beq {m n k : Nat} (h : (m &&& n == k) = true) (v : Var) :
    (m.testBit v && n.testBit v) = k.testBit v := by
  rw [← Nat.testBit_and, beq_iff_eq.1 h]

theorem testBit_maskOf (vs : List Var) (v : Var) : (maskOf vs).testBit v = decide (v ∈ vs) := by
  induction vs with
  | nil => simp [maskOf]
  | cons x xs ih =>
    rw [show maskOf (x :: xs) = maskOf xs ||| bit x from rfl, Nat.testBit_or, testBit_bit, ih]
    by_cases h1 : v ∈ xs <;> by_cases h2 : v = x <;> simp [h1, h2, eq_comm]

theorem upd_same {α : Type} (f : Nat → α) (i : Nat) (v : α) : upd f i v i = v := by simp [upd]
theorem upd_other {α : Type} (f : Nat → α) (i j : Nat) (v : α) (h : j ≠ i) : upd f i v j = f j := by simp [upd, h]

theorem Reach.trans {h : Node → List Node} {a b c : Node} (h1 : Reach h a b) (h2 : Reach h b c) : Reach h a c := by
  induction h1 with
  | refl _ => exact h2
  | step hk _ ih => exact Reach.step hk (ih h2)

theorem Reach.preserves {h : Node → List Node} {S : Node → Prop} (hS : ∀ n, S n → ∀ k ∈ h n, S k)
    {a b : Node} (hr : Reach h a b) (ha : S a) : S b := by
  induction hr with
  | refl _ => exact ha
  | step hk _ ih => exact ih (hS _ ha _ hk)

theorem Reach.lt_of_closed {h : Node → List Node} {m : Nat} (hc : ∀ n, n < m → ∀ k ∈ h n, k < m)
    {a b : Node} (hr : Reach h a b) (ha : a < m) : b < m :=
  hr.preserves (S := (· < m)) hc ha

/-- two heaps that agree below `m`, the first closed below `m`: same reachability from below `m` -/
theorem Reach.of_agree {h h' : Node → List Node} {m : Nat} (hc : ∀ n, n < m → ∀ k ∈ h n, k < m)
    (hag : ∀ n, n < m → h' n = h n) {a b : Node} (hr : Reach h' a b) (ha : a < m) : Reach h a b := by
  induction hr with
  | refl _ => exact Reach.refl _
  | step hk _ ih =>
    rw [hag _ ha] at hk
    exact Reach.step hk (ih (hc _ ha _ hk))

/-- a region `≥ m` that only points into itself: nothing below `m` is reachable from it -/
theorem Reach.ge_of_region {h : Node → List Node} {m : Nat} (hreg : ∀ n, m ≤ n → ∀ k ∈ h n, m ≤ k)
    {a b : Node} (hr : Reach h a b) (ha : m ≤ a) : m ≤ b :=
  hr.preserves (S := (m ≤ ·)) hreg ha

/-- after a write to container `c` whose new members are old members or the nodes `ys`: whatever is
reachable now was reachable before, from the same start or from one of the `ys` -/
theorem Reach.of_store {h : Node → List Node} {c : Node} {L : List Node} {ys : List Node}
    (hL : ∀ k ∈ L, k ∈ h c ∨ k ∈ ys) {a b : Node} (hr : Reach (upd h c L) a b) :
    Reach h a b ∨ ∃ y ∈ ys, Reach h y b := by
  induction hr with
  | refl _ => exact Or.inl (Reach.refl _)
  | @step a0 k0 b0 hk _ ih =>
    rcases ih with ih | ih
    · by_cases hc : a0 = c
      · subst hc
        rw [upd_same] at hk
        rcases hL _ hk with h1 | h1
        · exact Or.inl (Reach.step h1 ih)
        · exact Or.inr ⟨_, h1, ih⟩
      · rw [upd_other _ _ _ _ hc] at hk
        exact Or.inl (Reach.step hk ih)
    · exact Or.inr ih

/-- What every state of an accepted body satisfies.  Nodes below `n0` are the caller's (`h0` their members at entry): they keep
their members; the heap is closed below the allocation pointer and every variable is bound below it; the two bits of a
variable are set whenever it points to (`pt_ok`) or reaches (`rc_ok`) a caller node; nothing of the caller was written to,
and no returned value reached a caller node in the heap of the moment of the return. -/
structure Inv (n0 : Node) (h0 : Node → List Node) (st : St) (a : Abs) : Prop where
  le_next : n0 ≤ st.next
  owned_same : ∀ n, n < n0 → st.heap n = h0 n
  closed : ∀ n, n < st.next → ∀ k ∈ st.heap n, k < st.next
  env_lt : ∀ v, st.env v < st.next
  pt_ok : ∀ v, st.env v < n0 → a.ptB v = true
  rc_ok : ∀ v o, o < n0 → Reach st.heap (st.env v) o → a.rcB v = true
  muts_ok : ∀ n ∈ st.muts, n0 ≤ n
  rets_ok : ∀ p ∈ st.rets, ∀ o, o < n0 → ¬ Reach p.2 p.1 o

def Abs.Le (a b : Abs) : Prop := ∀ v, (a.ptB v = true → b.ptB v = true) ∧ (a.rcB v = true → b.rcB v = true)

theorem Abs.Le.refl (a : Abs) : a.Le a := fun _ => ⟨id, id⟩

theorem Abs.Le.trans {a b c : Abs} (h1 : a.Le b) (h2 : b.Le c) : a.Le c :=
  fun v => ⟨fun h => (h2 v).1 ((h1 v).1 h), fun h => (h2 v).2 ((h1 v).2 h)⟩

theorem Abs.Le.of_le {b a : Abs} (h : b.le a = true) : b.Le a := by
  intro v
  unfold Abs.le at h
  obtain ⟨h1, h2⟩ := Bool.and_eq_true_iff.1 h
  refine ⟨fun hv => ?_, ?_⟩
  · have e := testBit_of_and_beq h1 v
    unfold Abs.ptB at hv ⊢
    rw [hv, Bool.true_and] at e
    exact e
  · rw [rcB_eq, rcB_eq]
    -- with `neg` set, `rc` holds the complement of the set
    cases hb : b.neg <;> cases ha : a.neg <;> rw [hb, ha] at h2
    case false.false =>
      -- set below set: `b.rc ⊆ a.rc`
      have e : (b.rc.testBit v && a.rc.testBit v) = b.rc.testBit v := testBit_of_and_beq h2 v
      intro hv
      rw [Bool.bne_false] at hv ⊢
      rw [hv, Bool.true_and] at e
      exact e
    case false.true =>
      -- set below complement: `b.rc` and `a.rc` are disjoint
      have e : (b.rc.testBit v && a.rc.testBit v) = (0 : Nat).testBit v := testBit_of_and_beq h2 v
      intro hv
      rw [Bool.bne_false] at hv
      rw [hv, Bool.true_and, Nat.zero_testBit] at e
      rw [e]
      rfl
    case true.false =>
      -- a complement is never below a set
      cases h2
    case true.true =>
      -- complement below complement: `a.rc ⊆ b.rc`
      have e : (a.rc.testBit v && b.rc.testBit v) = a.rc.testBit v := testBit_of_and_beq h2 v
      intro hv
      rw [Bool.bne_true, Bool.not_eq_true'] at hv ⊢
      rw [hv, Bool.and_false] at e
      exact e.symm

theorem Abs.Le.join_left (a b : Abs) : a.Le (a.join b) := by
  intro v
  rw [ptB_join, rcB_join]
  constructor <;> intro h <;> simp [h]

theorem Abs.Le.join_right (a b : Abs) : b.Le (a.join b) := by
  intro v
  rw [ptB_join, rcB_join]
  constructor <;> intro h <;> simp [h]

theorem Inv.mono {n0 h0 st a a'} (h : Inv n0 h0 st a) (hle : a.Le a') : Inv n0 h0 st a' :=
  { h with
    pt_ok := fun v hv => (hle v).1 (h.pt_ok v hv)
    rc_ok := fun v o ho hr => (hle v).2 (h.rc_ok v o ho hr) }

/-- The one way a variable is bound (`deepcopy`, `derive`, `alias`, `sub`): the heap may grow above the allocation
pointer, `x` is bound to a node `r`, and the bits given to `x` over-approximate what `r` is and reaches. -/
theorem Inv.assign {n0 h0 st a} (hinv : Inv n0 h0 st a) {st' : St} {x : Var} {r : Node} {p q : Bool}
    (hnext : st.next ≤ st'.next) (hag : ∀ n, n < st.next → st'.heap n = st.heap n)
    (hnew : ∀ n, st.next ≤ n → n < st'.next → ∀ k ∈ st'.heap n, k < st'.next)
    (henv : st'.env = upd st.env x r) (hmuts : st'.muts = st.muts) (hrets : st'.rets = st.rets)
    (hr : r < st'.next) (hp : r < n0 → p = true) (hq : ∀ o, o < n0 → Reach st'.heap r o → q = true) :
    Inv n0 h0 st' (a.set x p q) where
  le_next := Nat.le_trans hinv.le_next hnext
  owned_same n hn := (hag n (Nat.lt_of_lt_of_le hn hinv.le_next)).trans (hinv.owned_same n hn)
  closed n hn k hk := by
    by_cases hlt : n < st.next
    · rw [hag n hlt] at hk
      exact Nat.lt_of_lt_of_le (hinv.closed n hlt k hk) hnext
    · exact hnew n (Nat.le_of_not_lt hlt) hn k hk
  env_lt v := by
    rw [henv]
    by_cases hv : v = x
    · rw [hv, upd_same]; exact hr
    · rw [upd_other _ _ _ _ hv]; exact Nat.lt_of_lt_of_le (hinv.env_lt v) hnext
  pt_ok v hv := by
    rw [henv] at hv
    rw [ptB_set]
    by_cases hvx : v = x
    · rw [hvx, upd_same] at hv
      rw [if_pos hvx]; exact hp hv
    · rw [upd_other _ _ _ _ hvx] at hv
      rw [if_neg hvx]; exact hinv.pt_ok v hv
  rc_ok v o ho hr' := by
    rw [henv] at hr'
    rw [rcB_set]
    by_cases hvx : v = x
    · rw [hvx, upd_same] at hr'
      rw [if_pos hvx]; exact hq o ho hr'
    · rw [upd_other _ _ _ _ hvx] at hr'
      rw [if_neg hvx]
      exact hinv.rc_ok v o ho (Reach.of_agree hinv.closed hag hr' (hinv.env_lt v))
  muts_ok := by
    rw [hmuts]
    exact hinv.muts_ok
  rets_ok := by
    rw [hrets]
    exact hinv.rets_ok

theorem iter_spec (f : Abs → Option Abs) (n : Nat) (a a' : Abs) (h : iter f n a = some a') :
    a.Le a' ∧ ∃ b, f a' = some b ∧ b.le a' = true := by
  fun_induction iter f n a with
  | case1 => cases h  -- out of fuel
  | case2 => cases h  -- the body is refused
  | case3 n a b hf hle =>  -- `b ≤ a`: `a` is returned
    cases h
    exact ⟨.refl _, b, hf, hle⟩
  | case4 n a b hf hle ih =>  -- otherwise go on from `a.join b`
    obtain ⟨h1, h2⟩ := ih h
    exact ⟨(Abs.Le.join_left a b).trans h1, h2⟩

theorem iter_fix (f : Abs → Option Abs) (n : Nat) (a b : Abs) (hf : f a = some b) (hle : b.le a = true) :
    iter f (n + 1) a = some a := by
  simp [iter, hf, hle]

theorem check_choice {s t : Stmt} {a a' : Abs} (h : check (.choice s t) a = some a') :
    ∃ b c, check s a = some b ∧ check t a = some c ∧ a' = b.join c := by
  simp only [check] at h
  split at h
  · rename_i b c h1 h2
    exact ⟨b, c, h1, h2, (Option.some.inj h).symm⟩
  · cases h

theorem exec_sound {n0 : Node} {h0 : Node → List Node} :
    ∀ {st : St} {s : Stmt} {st' : St}, Exec st s st' → ∀ (a a' : Abs), check s a = some a' →
      Inv n0 h0 st a → Inv n0 h0 st' a' := by
  intro st s st' hex a a' hc hinv
  induction hex generalizing a a' with
  | skip st =>
    cases hc
    exact hinv
  | deepcopy st st' x y r hr_ge hr_lt hag hreg henv hmuts hrets =>
    cases hc
    have hge : n0 ≤ r := Nat.le_trans hinv.le_next hr_ge
    refine hinv.assign (hnext := Nat.le_of_lt (Nat.lt_of_le_of_lt hr_ge hr_lt)) (hag := hag)
      (hnew := fun n hn _ k hk => (hreg n hn k hk).2) (henv := henv) (hmuts := hmuts) (hrets := hrets) (hr := hr_lt)
      (hp := fun hr => absurd hr (Nat.not_lt.2 hge)) (hq := fun o ho hr => ?_)
    -- the copy is a region of its own
    have := Reach.ge_of_region (fun n hn k hk => (hreg n hn k hk).1) hr hr_ge
    exact absurd (Nat.lt_of_lt_of_le ho hinv.le_next) (Nat.not_lt.2 this)
  | derive st x ys L hL =>
    cases hc
    have hag : ∀ n, n < st.next → upd st.heap st.next L n = st.heap n :=
      fun n hn => upd_other _ _ _ _ (Nat.ne_of_lt hn)
    have hLlt : ∀ k ∈ L, k < st.next := fun k hk =>
      let ⟨y, _, hr⟩ := hL k hk
      Reach.lt_of_closed hinv.closed hr (hinv.env_lt y)
    refine hinv.assign (hnext := Nat.le_succ _) (hag := hag)
      (hnew := fun n hn (hn' : n < st.next + 1) k (hk : k ∈ upd st.heap st.next L n) => ?_)
      (henv := rfl) (hmuts := rfl) (hrets := rfl) (hr := Nat.lt_succ_self _)
      (hp := fun hr => absurd hr (Nat.not_lt.2 hinv.le_next))
      (hq := fun o ho (hr : Reach (upd st.heap st.next L) st.next o) => ?_)
    · rw [Nat.le_antisymm (Nat.le_of_lt_succ hn') hn, upd_same] at hk
      exact Nat.lt_succ_of_lt (hLlt k hk)
    · -- a path from the new node to a caller node leaves through a member, which some `y` reaches
      cases hr with
      | refl _ => exact absurd ho (Nat.not_lt.2 hinv.le_next)
      | step hk hrest =>
        rw [upd_same] at hk
        obtain ⟨y, hy, hry⟩ := hL _ hk
        have hr2 := Reach.of_agree hinv.closed hag hrest (hLlt _ hk)
        exact List.any_eq_true.2 ⟨y, hy, hinv.rc_ok y o ho (hry.trans hr2)⟩
  | alias st x y =>
    cases hc
    exact hinv.assign (hnext := Nat.le_refl _) (hag := fun _ _ => rfl) (hnew := fun n hn hn' => absurd hn' (Nat.not_lt.2 hn))
      (henv := rfl) (hmuts := rfl) (hrets := rfl) (hr := hinv.env_lt y) (hp := hinv.pt_ok y) (hq := hinv.rc_ok y)
  | sub st x y k hk =>
    cases hc
    exact hinv.assign (hnext := Nat.le_refl _) (hag := fun _ _ => rfl) (hnew := fun n hn hn' => absurd hn' (Nat.not_lt.2 hn))
      (henv := rfl) (hmuts := rfl) (hrets := rfl) (hr := Reach.lt_of_closed hinv.closed hk (hinv.env_lt y))
      (hp := fun h => hinv.rc_ok y k h hk) (hq := fun o ho hr => hinv.rc_ok y o ho (hk.trans hr))
  | store st x ys L hL =>
    simp only [check] at hc
    split at hc
    · cases hc
    · rename_i hpt
      have hxge : n0 ≤ st.env x := Nat.le_of_not_lt fun hlt => hpt (hinv.pt_ok x hlt)
      have hL' : ∀ k ∈ L, k ∈ st.heap (st.env x) ∨ k ∈ ys.map st.env := fun k hk =>
        (hL k hk).imp_right fun ⟨y, hy, e⟩ => List.mem_map.2 ⟨y, hy, e.symm⟩
      have hle : a.Le a' ∧ (ys.any a.rcB = true → ∀ v, a'.rcB v = true) := by
        split at hc <;> cases hc
        · exact ⟨fun v => ⟨id, fun _ => rcB_taintAll a v⟩, fun _ => rcB_taintAll a⟩
        · rename_i hany
          exact ⟨.refl a, fun h => absurd h hany⟩
      refine { hinv.mono hle.1 with
        owned_same := ?_, closed := ?_, rc_ok := ?_, muts_ok := List.forall_mem_cons.2 ⟨hxge, hinv.muts_ok⟩ }
      · intro n hn
        exact (upd_other _ _ _ _ (Nat.ne_of_lt (Nat.lt_of_lt_of_le hn hxge))).trans (hinv.owned_same n hn)
      · intro n hn k (hk : k ∈ upd st.heap (st.env x) L n)
        by_cases hnx : n = st.env x
        · rw [hnx, upd_same] at hk
          rcases hL k hk with h | ⟨y, _, rfl⟩
          · exact hinv.closed _ (hinv.env_lt x) k h
          · exact hinv.env_lt y
        · rw [upd_other _ _ _ _ hnx] at hk
          exact hinv.closed n hn k hk
      · intro v o ho hr
        rcases Reach.of_store hL' hr with h | ⟨n, hn, h⟩
        · exact (hle.1 v).2 (hinv.rc_ok v o ho h)
        · obtain ⟨y, hy, rfl⟩ := List.mem_map.1 hn
          exact hle.2 (List.any_eq_true.2 ⟨y, hy, hinv.rc_ok y o ho h⟩) v
  | ret st x =>
    simp only [check] at hc
    split at hc
    · cases hc
    · rename_i hrc
      cases hc
      exact { hinv with rets_ok := List.forall_mem_cons.2 ⟨fun o ho hr => hrc (hinv.rc_ok x o ho hr), hinv.rets_ok⟩ }
  | @seq st0 st1 st2 s0 t0 _ _ ih1 ih2 =>
    simp only [check] at hc
    split at hc
    · cases hc
    · rename_i b h1
      exact ih2 b a' hc (ih1 a b h1 hinv)
  | @choiceL st0 st1 s0 t0 _ ih =>
    obtain ⟨b, c, h1, -, rfl⟩ := check_choice hc
    exact (ih a b h1 hinv).mono (.join_left b c)
  | @choiceR st0 st1 s0 t0 _ ih =>
    obtain ⟨b, c, -, h2, rfl⟩ := check_choice hc
    exact (ih a c h2 hinv).mono (.join_right b c)
  | loopDone st s =>
    exact hinv.mono (iter_spec _ _ _ _ hc).1
  | @loopStep st0 st1 st2 s0 _ _ ih1 ih2 =>
    -- `a'` is a post-fixpoint of the body above `a`, so the loop checked from `a'` returns `a'` again
    obtain ⟨h1, b, hb, hle⟩ := iter_spec _ _ _ _ hc
    exact ih2 a' a' (iter_fix _ _ _ _ hb hle) ((ih1 a' b hb (hinv.mono h1)).mono (.of_le hle))

theorem init_inv {n0 : Node} {h0 : Node → List Node} {params : List Var} {st : St}
    (hown : ∀ n, n < n0 → ∀ k ∈ h0 n, k < n0) (hi : Init n0 h0 params st) :
    Inv n0 h0 st (Abs.init params) := by
  -- a variable is a parameter, with both bits set, or bound to the one new, empty container `n0`
  have hvar : ∀ v, (st.env v < n0 ∧ (maskOf params).testBit v = true) ∨ st.env v = n0 := fun v =>
    if hp : v ∈ params then .inl ⟨hi.params_owned v hp, (testBit_maskOf params v).trans (decide_eq_true hp)⟩
    else .inr (hi.others_new v hp)
  refine { le_next := ?_, owned_same := hi.heap_eq, closed := ?_, env_lt := ?_, pt_ok := ?_, rc_ok := ?_,
           muts_ok := ?_, rets_ok := ?_ }
  · rw [hi.next_eq]; exact Nat.le_succ _
  · intro n hn k hk
    rw [hi.next_eq] at hn ⊢
    rcases Nat.lt_succ_iff_lt_or_eq.1 hn with hlt | rfl
    · rw [hi.heap_eq n hlt] at hk
      exact Nat.lt_succ_of_lt (hown n hlt k hk)
    · rw [hi.heap_new] at hk
      cases hk
  · intro v
    rw [hi.next_eq]
    rcases hvar v with h | h
    · exact Nat.lt_succ_of_lt h.1
    · rw [h]; exact Nat.lt_succ_self _
  · intro v hv
    rcases hvar v with h | h
    · exact h.2
    · exact absurd (h ▸ hv) (Nat.lt_irrefl _)
  · intro v o ho hr
    rcases hvar v with h | h
    · exact h.2
    · rw [h] at hr
      cases hr with
      | refl _ => exact absurd ho (Nat.lt_irrefl _)
      | step hk _ => rw [hi.heap_new] at hk; cases hk
  · rw [hi.no_muts]; exact fun _ h => nomatch h
  · rw [hi.no_rets]; exact fun _ h => nomatch h

end BSE.Heap
