import BSEModel.ManipOps

/-! # `sort_shell` / `sort_shells` keep the set of contracted functions

The code sorts a list of positions by a key and reads the primitives, every coefficient column and the columns
themselves through it.  `permBy idx xs` is that reading and `sortIdx n le` the sorted positions; what is proved
about them here is about arbitrary lists and orders.  Reordering the primitives of a shell (every column with
them), the columns of a single-momentum shell and the shells of an element only permutes the
`(momentum, radial function)` pairs. -/

namespace BSE
variable {ν : Type}

theorem perm_sum_rat {l₁ l₂ : List Rat} (p : l₁.Perm l₂) : l₁.sum = l₂.sum := by
  induction p with
  | nil => rfl
  | cons x _ ih => simp [ih]
  | swap x y l => simp only [List.sum_cons]; grind
  | trans _ _ ih1 ih2 => exact ih1.trans ih2

def permBy {α : Type} (idx : List Nat) (xs : List α) : List α := idx.filterMap (xs[·]?)

theorem length_permBy_le {α : Type} (idx : List Nat) (xs : List α) : (permBy idx xs).length ≤ idx.length :=
  List.length_filterMap_le _ _

theorem mem_of_mem_permBy {α : Type} {idx : List Nat} {xs : List α} {a : α} (h : a ∈ permBy idx xs) : a ∈ xs := by
  obtain ⟨_, _, hi⟩ := List.mem_filterMap.1 h
  exact List.mem_of_getElem? hi

theorem permBy_range {α : Type} (xs : List α) {m : Nat} (hm : xs.length ≤ m) : permBy (List.range m) xs = xs := by
  obtain ⟨k, rfl⟩ : ∃ k, m = xs.length + k := ⟨m - xs.length, by omega⟩
  have hout : ((List.range k).map (xs.length + ·)).filterMap (xs[·]?) = [] :=
    List.filterMap_eq_nil_iff.2 fun a ha => by
      obtain ⟨b, _, rfl⟩ := List.mem_map.1 ha
      simp
  rw [permBy, List.range_add, List.filterMap_append, filterMap_range_getElem?, hout, List.append_nil]

theorem permBy_perm {α : Type} {idx : List Nat} {xs : List α} (h : idx.Perm (List.range xs.length)) :
    (permBy idx xs).Perm xs := by
  have := h.filterMap (xs[·]?)
  rwa [filterMap_range_getElem?] at this

theorem length_permBy_le_of_perm {α β : Type} {idx : List Nat} {xs : List α} {ys : List β}
    (h : idx.Perm (List.range xs.length)) : (permBy idx ys).length ≤ (permBy idx xs).length := by
  rw [(permBy_perm h).length_eq, ← List.length_range (n := xs.length), ← h.length_eq]
  exact length_permBy_le idx ys

theorem permBy_zip {α β : Type} (xs : List α) (ys : List β) (hl : ys.length = xs.length) (idx : List Nat)
    (hin : ∀ i ∈ idx, i < xs.length) : (permBy idx xs).zip (permBy idx ys) = permBy idx (xs.zip ys) := by
  unfold permBy
  induction idx with
  | nil => rfl
  | cons i r ih =>
    have hi : i < xs.length := hin i (by simp)
    have hi' : i < ys.length := by omega
    have hz : i < (xs.zip ys).length := by simp; omega
    have ih' := ih (fun j hj => hin j (by simp [hj]))
    simp only [List.filterMap_cons, List.getElem?_eq_getElem hi, List.getElem?_eq_getElem hi',
      List.getElem?_eq_getElem hz, List.zip_cons_cons, ih', List.getElem_zip]

theorem colFn_reorder (val : ν → Rat) (exps col : List ν) (hl : col.length = exps.length) (idx : List Nat)
    (h : idx.Perm (List.range exps.length)) (x : Rat) :
    colFn val (permBy idx exps) (permBy idx col) x = colFn val exps col x := by
  unfold colFn
  rw [permBy_zip exps col hl idx (fun i hi => List.mem_range.1 ((h.mem_iff).1 hi))]
  have hz : (exps.zip col).length = exps.length := by simp; omega
  exact perm_sum_rat ((permBy_perm (by rw [hz]; exact h)).map _)

/-! `r` is the order on keys (`≥` on exponent values, `≤` on `<r²>`, the pair order of `sort_shells`); the code sorts
by `decide (r (key a) (key b))`. -/

section order
variable {α κ : Type} (r : κ → κ → Prop) [DecidableRel r]

theorem sortIdx_of_pairwise (f : α → κ) {xs : List α} {key : Nat → κ} (hkey : ∀ i (h : i < xs.length), key i = f xs[i])
    (h : xs.Pairwise fun a b => r (f a) (f b)) :
    sortIdx xs.length (fun i j => decide (r (key i) (key j))) = List.range xs.length := by
  apply List.mergeSort_of_pairwise
  rw [List.pairwise_iff_getElem] at h ⊢
  intro i j hi hj hij
  simp only [List.length_range] at hi hj
  simp only [List.getElem_range, hkey i hi, hkey j hj]
  exact decide_eq_true (h i j hi hj hij)

variable (tr : ∀ a b c, r a b → r b c → r a c) (tot : ∀ a b, r a b ∨ r b a)
include tr tot

theorem pairwise_mergeSort_key (key : α → κ) (l : List α) :
    (l.mergeSort fun a b => decide (r (key a) (key b))).Pairwise fun a b => r (key a) (key b) :=
  (List.pairwise_mergeSort (le := fun a b => decide (r (key a) (key b)))
    (fun _ _ _ hab hbc => decide_eq_true (tr _ _ _ (of_decide_eq_true hab) (of_decide_eq_true hbc)))
    (fun a b => by simpa using tot (key a) (key b)) l).imp of_decide_eq_true

theorem pairwise_permBy_sortIdx (f : α → κ) {xs : List α} {key : Nat → κ}
    (hkey : ∀ i (h : i < xs.length), key i = f xs[i]) (n : Nat) :
    (permBy (sortIdx n fun i j => decide (r (key i) (key j))) xs).Pairwise fun a b => r (f a) (f b) := by
  refine List.pairwise_filterMap.2 ((pairwise_mergeSort_key r tr tot key _).imp ?_)
  intro i j hij a ha b hb
  obtain ⟨hi, rfl⟩ := List.getElem?_eq_some_iff.1 ha
  obtain ⟨hj, rfl⟩ := List.getElem?_eq_some_iff.1 hb
  rwa [hkey i hi, hkey j hj] at hij

end order

theorem sortIdx_perm (n : Nat) (le : Nat → Nat → Bool) : (sortIdx n le).Perm (List.range n) :=
  List.mergeSort_perm _ _

theorem keyAt_of_lt (rsq : List Rat) (i : Nat) (h : i < rsq.length) : keyAt rsq i = rsq[i] := by
  simp [keyAt, h]

/-- the positions `sort_shell` reads through: `zIdx` those of the primitives (exponents descending), `cIdx` those of the columns
(ascending `<r²>` key for a single momentum, untouched for a fused shell) -/
def zIdx (val : ν → Rat) (sh : Shell ν) : List Nat :=
  sortIdx sh.exps.length (fun i j => decide (((sh.exps[i]?).map val).getD 0 ≥ ((sh.exps[j]?).map val).getD 0))

def cIdx (rsq : List Rat) (sh : Shell ν) : List Nat :=
  if sh.am.length = 1 then sortIdx rsq.length (fun i j => decide (keyAt rsq i ≤ keyAt rsq j))
  else List.range sh.coefs.length

theorem cIdx_perm_keys (rsq : List Rat) (sh : Shell ν) (h1 : sh.am.length = 1) :
    (cIdx rsq sh).Perm (List.range rsq.length) := by
  rw [cIdx, if_pos h1]
  exact sortIdx_perm _ _

theorem zKey_of_lt (val : ν → Rat) (exps : List ν) (i : Nat) (h : i < exps.length) :
    ((exps[i]?).map val).getD 0 = val exps[i] := by
  simp [h]

theorem sortShell_am (val : ν → Rat) (rsq : List Rat) (sh : Shell ν) : (sortShell val rsq sh).am = sh.am := rfl

theorem sortShell_coefs (val : ν → Rat) (rsq : List Rat) (sh : Shell ν) :
    (sortShell val rsq sh).coefs = (permBy (cIdx rsq sh) sh.coefs).map (permBy (zIdx val sh)) := by
  unfold permBy
  rw [List.map_filterMap]
  rfl

theorem sortShell_eq (val : ν → Rat) (rsq : List Rat) (sh : Shell ν) :
    sortShell val rsq sh = { sh with exps := permBy (zIdx val sh) sh.exps,
                                     coefs := (permBy (cIdx rsq sh) sh.coefs).map (permBy (zIdx val sh)) } := by
  rw [← sortShell_coefs]
  rfl

theorem sortShell_funcs_perm (val : ν → Rat) (rsq : List Rat) (sh : Shell ν) (hr : RectShell sh)
    (hk : sh.am.length = 1 → rsq.length = sh.coefs.length) :
    ((sortShell val rsq sh).funcs val).Perm (sh.funcs val) := by
  -- the rows first: every column is the same function of the exponent as before
  have hrows : (sortShell val rsq sh).funcs val
      = ({ sh with coefs := permBy (cIdx rsq sh) sh.coefs } : Shell ν).funcs val := by
    apply Shell.funcs_congr val (by rfl)
    rw [sortShell_coefs, List.map_map]
    exact List.map_congr_left fun c hc => funext fun x =>
      colFn_reorder val sh.exps c (hr c (mem_of_mem_permBy hc)) _ (sortIdx_perm _ _) x
  rw [hrows]
  by_cases h1 : sh.am.length = 1
  · simp only [Shell.funcs, h1, Nat.lt_irrefl, gt_iff_lt, if_false]
    exact (permBy_perm (hk h1 ▸ cIdx_perm_keys rsq sh h1)).map _
  · -- fused (or no momentum): the column order is untouched
    rw [cIdx, if_neg h1, permBy_range _ (Nat.le_refl _)]

theorem sortShells_perm (val : ν → Rat) (keyed : List (Shell ν × List Rat × Rat)) :
    (sortShells val keyed).Perm (keyed.map fun t => sortShell val t.2.1 t.1) := by
  refine ((List.mergeSort_perm _ _).map _).trans ?_
  rw [List.map_map]
  rfl

theorem permBy_cIdx_sorted (rsq : List Rat) (sh : Shell ν) (h1 : sh.am.length = 1) :
    (permBy (cIdx rsq sh) rsq).Pairwise (fun a b => a ≤ b) := by
  rw [cIdx, if_pos h1]
  exact pairwise_permBy_sortIdx (· ≤ ·) (fun _ _ _ => Rat.le_trans) (fun _ _ => Rat.le_total) id (keyAt_of_lt rsq) _

theorem sortShell_of_sorted (val : ν → Rat) (rsq : List Rat) (sh : Shell ν)
    (he : (sh.exps.map val).Pairwise (fun a b => a ≥ b)) (hc : ∀ c ∈ sh.coefs, c.length ≤ sh.exps.length)
    (hk : sh.am.length = 1 → rsq.Pairwise (fun a b => a ≤ b) ∧ sh.coefs.length ≤ rsq.length) :
    sortShell val rsq sh = sh := by
  have hz : zIdx val sh = List.range sh.exps.length :=
    sortIdx_of_pairwise (· ≥ ·) val (zKey_of_lt val sh.exps) (List.pairwise_map.1 he)
  have hcols : permBy (cIdx rsq sh) sh.coefs = sh.coefs := by
    unfold cIdx
    split
    · next h1 => rw [sortIdx_of_pairwise (· ≤ ·) id (keyAt_of_lt rsq) (hk h1).1]; exact permBy_range _ (hk h1).2
    · exact permBy_range _ (Nat.le_refl _)
  rw [sortShell_eq, hz, hcols, permBy_range _ (Nat.le_refl _),
    List.map_congr_left (g := id) fun c h => permBy_range c (hc c h), List.map_id]

theorem pairwise_mergeSort_shellKey (l : List (Shell ν × Nat × Rat)) :
    (l.mergeSort fun a b => decide (a.2.1 < b.2.1 ∨ (a.2.1 = b.2.1 ∧ a.2.2 ≤ b.2.2))).Pairwise
      fun a b => a.2.1 < b.2.1 ∨ (a.2.1 = b.2.1 ∧ a.2.2 ≤ b.2.2) := by
  refine pairwise_mergeSort_key (fun a b : Nat × Rat => a.1 < b.1 ∨ (a.1 = b.1 ∧ a.2 ≤ b.2)) ?_ ?_ (·.2) l
  · intro a b c hab hbc
    rcases hab with h1 | ⟨h1, h2⟩ <;> rcases hbc with h3 | ⟨h3, h4⟩
    · exact Or.inl (Nat.lt_trans h1 h3)
    · exact Or.inl (h3 ▸ h1)
    · exact Or.inl (h1 ▸ h3)
    · exact Or.inr ⟨h1.trans h3, Rat.le_trans h2 h4⟩
  · intro a b
    rcases Nat.lt_trichotomy a.1 b.1 with h | h | h
    · exact Or.inl (Or.inl h)
    · exact (Rat.le_total (a := a.2) (b := b.2)).imp (fun h2 => Or.inr ⟨h, h2⟩) (fun h2 => Or.inr ⟨h.symm, h2⟩)
    · exact Or.inr (Or.inl h)

end BSE
