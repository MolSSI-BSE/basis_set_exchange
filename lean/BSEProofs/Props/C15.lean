import BSEModel.Bundle
/-! # C15 — a bundle is exactly the API output for everything the format supports -/
namespace BSE.Props.C15
open BSE.Bundle

/-- **exactly**: a pair is an archive member iff it is the README, a member of a basis the format can express, or the
notes of a family that has notes — the converse of `gated_out_absent` included -/
theorem bundleMembers_iff (fmt reffmt ext refext readme : String) (entries : List Entry)
    (data : String → String → Option (String × String)) (fam : List (String × String)) (m : String × String) :
    m ∈ bundleMembers fmt reffmt ext refext readme entries data fam ↔
      m = ("basis_set_bundle-" ++ fmt ++ "-" ++ reffmt ++ "/README.txt", readme)
      ∨ (∃ e ∈ entries, gate fmt e.ftypes = true ∧ m ∈ entryMembers ("basis_set_bundle-" ++ fmt ++ "-" ++ reffmt) ext refext e data)
      ∨ (∃ f ∈ fam, f.2.isEmpty = false ∧ m = ("basis_set_bundle-" ++ fmt ++ "-" ++ reffmt ++ "/" ++ f.1 ++ ".family_notes", f.2)) := by
  simp only [bundleMembers, List.mem_append, List.mem_singleton, List.mem_flatMap, List.mem_filter, List.mem_map,
    Bool.not_eq_true', or_assoc, and_assoc, eq_comm (b := m)]

/-- **basis sets the format cannot express are absent**: no member comes from a gated-out entry -/
theorem gated_out_absent (fmt reffmt ext refext readme : String) (entries : List Entry)
    (data : String → String → Option (String × String)) (fam : List (String × String)) (m : String × String)
    (hm : m ∈ bundleMembers fmt reffmt ext refext readme entries data fam) :
    m = ("basis_set_bundle-" ++ fmt ++ "-" ++ reffmt ++ "/README.txt", readme)
      ∨ (∃ e ∈ entries, gate fmt e.ftypes = true ∧ m ∈ entryMembers ("basis_set_bundle-" ++ fmt ++ "-" ++ reffmt) ext refext e data)
      ∨ (∃ f ∈ fam, f.2.isEmpty = false ∧ m = ("basis_set_bundle-" ++ fmt ++ "-" ++ reffmt ++ "/" ++ f.1 ++ ".family_notes", f.2)) :=
  (bundleMembers_iff fmt reffmt ext refext readme entries data fam m).1 hm

theorem mem_versionMembers (sub ext refext key v : String) (d : Option (String × String)) (m : String × String) :
    m ∈ versionMembers sub ext refext key v d ↔ ∃ bs ref, d = some (bs, ref) ∧
      (m = (sub ++ "/" ++ key ++ "." ++ v ++ ext, bs) ∨ m = (sub ++ "/" ++ key ++ "." ++ v ++ ".ref" ++ refext, ref)) := by
  cases d with
  | none => simp [versionMembers]
  | some p => obtain ⟨bs, ref⟩ := p; simp [versionMembers, and_assoc]

/-- **what one basis contributes**: for every version that `get_basis` / `get_references` can express
exactly one basis file and one reference file, carrying exactly those two texts and named after the
basis' own file-name form; a notes file iff it has notes; nothing else -/
theorem entryMembers_spec (sub ext refext : String) (e : Entry) (data : String → String → Option (String × String))
    (m : String × String) :
    m ∈ entryMembers sub ext refext e data ↔
      (∃ v ∈ e.versions, ∃ bs ref, data e.key v = some (bs, ref) ∧
          (m = (sub ++ "/" ++ e.key ++ "." ++ v ++ ext, bs) ∨ m = (sub ++ "/" ++ e.key ++ "." ++ v ++ ".ref" ++ refext, ref)))
      ∨ (e.notes.isEmpty = false ∧ m = (sub ++ "/" ++ e.key ++ ".notes", e.notes)) := by
  simp only [entryMembers, List.mem_append, List.mem_flatMap, mem_versionMembers]
  cases e.notes.isEmpty <;> simp

/-- the notes of a basis are filed under that basis' own name — also when none of its versions can be
expressed in the format (the defect repaired by fix 20a78227 put them under the previous basis' name) -/
theorem notes_named_after_own_basis (sub ext refext : String) (e : Entry) (data : String → String → Option (String × String))
    (hne : e.notes.isEmpty = false) (hnone : ∀ v, data e.key v = none) :
    entryMembers sub ext refext e data = [(sub ++ "/" ++ e.key ++ ".notes", e.notes)] := by
  unfold entryMembers
  have : (e.versions.flatMap fun v => versionMembers sub ext refext e.key v (data e.key v)) = [] := by
    apply List.flatMap_eq_nil_iff.2
    intro v _
    simp [hnone v, versionMembers]
  rw [this]
  simp [hne]

/-- **every family that has notes gets its notes file, whatever the format can express**: the family-notes members do
not depend on the entries or on the gate (a family all of whose basis sets are gated out keeps its notes) -/
theorem family_notes_always_present (fmt reffmt ext refext readme : String) (entries : List Entry)
    (data : String → String → Option (String × String)) (fam : List (String × String)) (f : String × String)
    (hf : f ∈ fam) (hne : f.2.isEmpty = false) :
    ("basis_set_bundle-" ++ fmt ++ "-" ++ reffmt ++ "/" ++ f.1 ++ ".family_notes", f.2)
      ∈ bundleMembers fmt reffmt ext refext readme entries data fam :=
  (bundleMembers_iff fmt reffmt ext refext readme entries data fam _).2 (Or.inr (Or.inr ⟨f, hf, hne, rfl⟩))

/-- **every expressible version is present with both files** -/
theorem version_files_present (fmt reffmt ext refext readme : String) (entries : List Entry)
    (data : String → String → Option (String × String)) (fam : List (String × String))
    (e : Entry) (he : e ∈ entries) (hg : gate fmt e.ftypes = true) (v : String) (hv : v ∈ e.versions)
    (bs ref : String) (hd : data e.key v = some (bs, ref)) :
    ("basis_set_bundle-" ++ fmt ++ "-" ++ reffmt ++ "/" ++ e.key ++ "." ++ v ++ ext, bs)
        ∈ bundleMembers fmt reffmt ext refext readme entries data fam
    ∧ ("basis_set_bundle-" ++ fmt ++ "-" ++ reffmt ++ "/" ++ e.key ++ "." ++ v ++ ".ref" ++ refext, ref)
        ∈ bundleMembers fmt reffmt ext refext readme entries data fam := by
  constructor
  · exact (bundleMembers_iff ..).2 (Or.inr (Or.inl ⟨e, he, hg,
      (entryMembers_spec _ ext refext e data _).2 (Or.inl ⟨v, hv, bs, ref, hd, Or.inl rfl⟩)⟩))
  · exact (bundleMembers_iff ..).2 (Or.inr (Or.inl ⟨e, he, hg,
      (entryMembers_spec _ ext refext e data _).2 (Or.inl ⟨v, hv, bs, ref, hd, Or.inr rfl⟩)⟩))


theorem split_last_dot (K K' v v' : List Char) (hv : '.' ∉ v) (hv' : '.' ∉ v') (h : K ++ '.' :: v = K' ++ '.' :: v') :
    K = K' ∧ v = v' := by
  -- one prefix extends the other; a proper extension would put the dot of the shorter side into `v` or `v'`
  rcases List.append_eq_append_iff.1 h with ⟨a, rfl, ha⟩ | ⟨a, rfl, ha⟩
  · cases a with
    | nil => simpa using ha
    | cons c cs => exact absurd (by simp [(List.cons.inj ha).2]) hv
  · cases a with
    | nil => simpa [eq_comm] using ha
    | cons c cs => exact absurd (by simp [(List.cons.inj ha).2]) hv'

theorem name_injective (pre suf k k' v v' : String) (hv : '.' ∉ v.toList) (hv' : '.' ∉ v'.toList)
    (h : pre ++ k ++ "." ++ v ++ suf = pre ++ k' ++ "." ++ v' ++ suf) : k = k' ∧ v = v' := by
  -- `suf` and `pre` cancel; what is left is compared as character lists
  rw [String.append_left_inj] at h
  simp only [String.append_assoc, String.append_right_inj] at h
  simp only [String.ext_iff, String.toList_append] at h
  exact (split_last_dot _ _ _ _ hv hv' h).imp String.toList_inj.1 String.toList_inj.1

/-- **file names map back to basis names**: the name of a basis file (and of a reference file) determines the basis — in the
index' file-name form, which `get_basis` accepts — and the version, whatever characters the name contains (dots included: the
version is the last dot-separated piece in front of the extension, and versions are digit strings); the name of a notes file
determines the basis.  Two different (basis, version) pairs therefore never share a member name, so "exactly one basis file
and one reference file" cannot be met by overwriting -/
theorem file_names_map_back (sub ext refext : String) (k k' v v' : String) (hv : '.' ∉ v.toList) (hv' : '.' ∉ v'.toList) :
    (sub ++ "/" ++ k ++ "." ++ v ++ ext = sub ++ "/" ++ k' ++ "." ++ v' ++ ext → k = k' ∧ v = v')
    ∧ (sub ++ "/" ++ k ++ "." ++ v ++ ".ref" ++ refext = sub ++ "/" ++ k' ++ "." ++ v' ++ ".ref" ++ refext → k = k' ∧ v = v')
    ∧ (sub ++ "/" ++ k ++ ".notes" = sub ++ "/" ++ k' ++ ".notes" → k = k') := by
  refine ⟨name_injective (sub ++ "/") ext k k' v v' hv hv', fun h => ?_,
    fun h => (String.append_right_inj _).1 ((String.append_left_inj _).1 h)⟩
  rw [String.append_assoc (s₃ := refext), String.append_assoc (s₃ := refext)] at h
  exact name_injective (sub ++ "/") (".ref" ++ refext) k k' v v' hv hv' h

/-- the members of two different versions of one basis, and of one version of two different bases, have different names -/
theorem version_members_disjoint (sub ext refext k k' v v' : String) (hv : '.' ∉ v.toList) (hv' : '.' ∉ v'.toList)
    (d d' : String × String) (hne : (k, v) ≠ (k', v')) :
    ((versionMembers sub ext refext k v (some d)).map (·.1))[0]? ≠ ((versionMembers sub ext refext k' v' (some d')).map (·.1))[0]?
    ∧ ((versionMembers sub ext refext k v (some d)).map (·.1))[1]? ≠ ((versionMembers sub ext refext k' v' (some d')).map (·.1))[1]? := by
  obtain ⟨h1, h2, _⟩ := file_names_map_back sub ext refext k k' v v' hv hv'
  have hne' : ¬ (k = k' ∧ v = v') := by simpa using hne
  -- entries 0 and 1 of the member names are, by evaluation, the two file names of `file_names_map_back`
  exact ⟨fun h => hne' (h1 (Option.some.inj h)), fun h => hne' (h2 (Option.some.inj h))⟩

example : gate "veloxchem" ["gto", "scalar_ecp"] = false ∧ gate "nwchem" ["gto", "scalar_ecp"] = true ∧ gate "json" ["anything"] = true := by
  decide +kernel

end BSE.Props.C15
