import BSEModel.Refs
import BSEProofs.Lemmas.RefRenderSpec
import BSEProofs.Lemmas.InsSort
/-! # C09 — references cover exactly the data that was returned

On the models of `references.compact_references` and `notes.process_notes` (`BSEModel/Refs.lean`) and of the bib / RIS /
EndNote converters (`BSEModel/RefRender.lean`): the grouping of elements by reference information keeps every
(element, info) pair, adds none and puts an element into one group; which keys a note mentions; every stored field value
occurs in the rendered text.  The txt renderer (textwrap) and the key resolution of `compact_references` are not modelled. -/
namespace BSE.Props.C09
open BSE.Refs

section
variable {ρ : Type} [DecidableEq ρ]

def DistinctInfo (gs : List (ρ × List String)) : Prop := gs.Pairwise (fun a b => a.1 ≠ b.1)

theorem addToGroups_infos (el : String) (r : ρ) (gs : List (ρ × List String)) :
    (addToGroups el r gs).map (·.1) = if r ∈ gs.map (·.1) then gs.map (·.1) else gs.map (·.1) ++ [r] := by
  induction gs with
  | nil => rfl
  | cons g rest ih =>
    unfold addToGroups
    split
    · rename_i h; simp [h]
    · rename_i h
      simp only [List.map_cons, ih, List.mem_cons, Ne.symm h, false_or]
      split <;> rfl

theorem addToGroups_distinct (el : String) (r : ρ) (gs : List (ρ × List String)) (h : DistinctInfo gs) :
    DistinctInfo (addToGroups el r gs) := by
  have h' : (gs.map (·.1)).Nodup := List.pairwise_map.2 h
  refine List.pairwise_map.1 (?_ : ((addToGroups el r gs).map (·.1)).Nodup)
  rw [addToGroups_infos]
  split
  · exact h'
  · rename_i hr
    exact List.nodup_append.2 ⟨h', List.pairwise_singleton _ r, fun a ha b hb e => hr (by rw [← List.mem_singleton.1 hb, ← e]; exact ha)⟩

/-- **different groups carry different reference information** -/
theorem compactGroups_distinct (els : List (String × ρ)) : DistinctInfo (compactGroups els) :=
  List.foldlRecOn els _ List.Pairwise.nil fun gs h e _ => addToGroups_distinct e.1 e.2 gs h

def Holds (gs : List (ρ × List String)) (el : String) (r : ρ) : Prop := ∃ g ∈ gs, g.1 = r ∧ el ∈ g.2

omit [DecidableEq ρ] in
theorem holds_cons (g : ρ × List String) (gs : List (ρ × List String)) (el : String) (r : ρ) :
    Holds (g :: gs) el r ↔ (g.1 = r ∧ el ∈ g.2) ∨ Holds gs el r := by simp [Holds]

theorem addToGroups_holds (el : String) (r : ρ) (gs : List (ρ × List String)) (el' : String) (r' : ρ) :
    Holds (addToGroups el r gs) el' r' ↔ (el', r') = (el, r) ∨ Holds gs el' r' := by
  induction gs with
  | nil => simp [addToGroups, Holds, and_comm, eq_comm]
  | cons g rest ih =>
    unfold addToGroups
    split
    · rename_i h
      simp only [holds_cons, List.mem_append, List.mem_singleton, h, and_or_left, or_assoc, Prod.mk.injEq,
        and_comm (a := el' = el), eq_comm (a := r')]
      exact or_left_comm
    · simp only [holds_cons, ih]
      exact or_left_comm

/-- **every element sits in a group carrying exactly its own reference information, and nothing else
is in any group**: `(el, info)` is held by the grouping iff it is one of the input pairs -/
theorem compactGroups_holds (els : List (String × ρ)) (el : String) (r : ρ) :
    Holds (compactGroups els) el r ↔ (el, r) ∈ els := by
  suffices h : ∀ gs, Holds (els.foldl (fun gs e => addToGroups e.1 e.2 gs) gs) el r ↔ (el, r) ∈ els ∨ Holds gs el r by
    exact (h []).trans (or_iff_left fun ⟨_, hg, _⟩ => nomatch hg)
  induction els with
  | nil => intro gs; simp
  | cons e es ih =>
    intro gs
    rw [List.foldl_cons, ih, addToGroups_holds, List.mem_cons]
    exact or_left_comm.trans or_assoc.symm

/-- **exactly one group per element** (for distinct element keys): two groups holding the same element are the same group -/
theorem compactGroups_unique (els : List (String × ρ)) (hnd : (els.map (·.1)).Nodup) (el : String) (r1 r2 : ρ)
    (h1 : Holds (compactGroups els) el r1) (h2 : Holds (compactGroups els) el r2) : r1 = r2 := by
  rw [compactGroups_holds] at h1 h2
  -- element keys are distinct, so the pair is determined by the key
  rcases InsSort.pairwise_eq_or_rel (List.pairwise_map.1 hnd) h1 h2 with e | e | e
  · exact (Prod.mk.inj e).2
  · exact absurd rfl e
  · exact absurd rfl e
end

/-- **`isSub` is the substring relation**: `key in notes` of the code -/
theorem isSub_iff (pat s : List Char) : isSub pat s = true ↔ ∃ pre post, s = pre ++ pat ++ post := by
  -- it decides core's `pat <:+: s`, which is this with the equation turned round
  have h : isSub pat s = true ↔ pat <:+: s := by
    induction s with
    | nil => simp [isSub]
    | cons c cs ih => simp only [isSub, Bool.or_eq_true, List.isPrefixOf_iff_prefix, ih, List.infix_cons_iff]
  exact h.trans ⟨fun ⟨a, b, e⟩ => ⟨a, b, e.symm⟩, fun ⟨a, b, e⟩ => ⟨a, b, e.symm⟩⟩

/-- **notes are returned as stored when they mention no reference key, and otherwise followed by
the banner and the text of exactly the mentioned keys** -/
theorem processNotes_spec (notes : String) (keys : List String) (refText : String → String) :
    (∀ k ∈ keys, isSub k.toList notes.toList = false) → processNotes notes keys refText = notes := by
  intro h
  unfold processNotes
  rw [List.filter_eq_nil_iff.2 fun k hk => by simp [h k hk]]
  rfl

theorem insertS_isInsert : InsSort.IsInsertDedup (· < ·) insertS := ⟨fun _ => rfl, fun _ _ _ => rfl⟩

/-- the keys whose text is appended: `sortKeys` is an insertion sort that drops repetitions, so it keeps the members -/
theorem processNotes_mentions (notes : String) (keys : List String) (refText : String → String) (k : String) :
    k ∈ sortKeys (keys.filter fun k => isSub k.toList notes.toList) ↔ k ∈ keys ∧ isSub k.toList notes.toList = true :=
  (insertS_isInsert.mem_sort _ k).trans List.mem_filter

example : (compactGroups [("1", "a"), ("2", "b"), ("3", "a")]) = [("a", ["1", "3"]), ("b", ["2"])] := by decide +kernel

section Renderers
open BSE.RefRender

/-- **BibTeX rendering is complete**: the key and every stored value (each author, each editor, title, journal, volume,
pages, year, doi, …, any further field) of the entry occur in `write_bib(key, entry)` -/
theorem bib_renders_every_field (key : Str) (e : Entry) :
    Sub key (writeBib key e) ∧ ∀ kv ∈ e.fields, WellTyped kv → ∀ x ∈ valStrings kv.2, Sub x (writeBib key e) := by
  unfold writeBib
  refine ⟨?_, ?_⟩
  · exact Sub.right _ (Sub.right _ (Sub.right _ (Sub.left _ (Sub.refl _))))
  · intro kv hkv wt x hx
    apply Sub.right
    apply Sub.left
    exact Sub.trans (sub_bibLine kv wt x hx) (sub_joinSep _ _ _ (List.mem_map.2 ⟨kv, hkv, rfl⟩))

/-- **RIS rendering is complete** -/
theorem ris_renders_every_field (key : Str) (e : Entry) :
    Sub key (writeRis key e) ∧ ∀ kv ∈ e.fields, WellTyped kv → ∀ x ∈ valStrings kv.2, Sub x (writeRis key e) :=
  writeTagged_complete risTags risType key e

/-- **EndNote rendering is complete** -/
theorem endnote_renders_every_field (key : Str) (e : Entry) :
    Sub key (writeEndnote key e) ∧ ∀ kv ∈ e.fields, WellTyped kv → ∀ x ∈ valStrings kv.2, Sub x (writeEndnote key e) :=
  writeTagged_complete endnoteTags endnoteType key e

/-- an entry with authors, editors (which RIS and EndNote file under the generic tag) and a doi -/
def demoEntry : Entry :=
  { etype := "incollection".toList,
    fields := [("authors".toList, .list ["Dunning, T. H.".toList, "Hay, P. J.".toList]), ("title".toList, .str "Gaussian Basis Sets".toList),
               ("editors".toList, .list ["Schaefer, H. F.".toList]), ("year".toList, .str "1977".toList), ("doi".toList, .str "10.1007/x".toList)] }

example : String.ofList (writeEndnote "dunning1977b".toList demoEntry)
    = "#incollection dunning1977b\n%0 Book \n%A Dunning, T. H.\n%A Hay, P. J.\n%T Gaussian Basis Sets\n%Z editors:['Schaefer, H. F.']\n%D 1977\n%R 10.1007/x\n" := by
  decide +kernel

example : ∀ kv ∈ demoEntry.fields, WellTyped kv := by
  have h : demoEntry.fields.all wellTypedB = true := by decide +kernel
  intro kv hkv
  exact wellTyped_of_B kv (List.all_eq_true.1 h kv hkv)

end Renderers

end BSE.Props.C09
