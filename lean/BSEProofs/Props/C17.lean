import BSEModel.AddBasis
import BSEProofs.Lemmas.Dict
import BSEProofs.Lemmas.MapEx
/-! # C17 — adding a basis to a data directory stores exactly it and overwrites nothing -/
namespace BSE.Props.C17
open BSE.AddBasis

def getFile (fs : Files) (p : String) : Option J := (fs.find? (·.1 == p)).map (·.2)

/-! A directory is a dictionary: `getFile` (= `dirOf`) is `Dict.get?` and `exists_` is `Dict.has`, by `rfl`.
Files are read through the `Dict` lemmas. -/

theorem getFile_eq (fs : Files) (p : String) : getFile fs p = Dict.get? fs p := rfl

theorem exists_eq (fs : Files) (p : String) : exists_ fs p = Dict.has fs p := rfl

theorem getFile_put_other (fs : Files) (p q : String) (j : J) (hne : p ≠ q) : getFile (put fs q j) p = getFile fs p := by
  have hmap : getFile (fs.map (fun kv => if kv.1 == q then (q, j) else kv)) p = getFile fs p := by
    simp only [getFile_eq]
    induction fs with
    | nil => rfl
    | cons kv rest ih =>
      rw [List.map_cons, Dict.get?_cons, Dict.get?_cons, ih]
      by_cases hq : kv.1 = q <;> simp [hq, Ne.symm hne]
  unfold put
  split
  · exact hmap
  · simp [getFile_eq, Dict.get?_append, Ne.symm hne]

def planned (pl : Plan) : Files := [(pl.elemRel, pl.elemData), (pl.tableRel, pl.tableData), (pl.metaRel, pl.metaData)]

theorem commit_getFile (fs : Files) (pl : Plan) (p : String) (hp : p ≠ "METADATA.json") :
    getFile (commit fs pl).1 p = (getFile fs p).or (getFile (planned pl) p) := by
  have hw : getFile (if exists_ (fs ++ [(pl.elemRel, pl.elemData)] ++ [(pl.tableRel, pl.tableData)]) pl.metaRel
      then fs ++ [(pl.elemRel, pl.elemData)] ++ [(pl.tableRel, pl.tableData)]
      else fs ++ [(pl.elemRel, pl.elemData)] ++ [(pl.tableRel, pl.tableData)] ++ [(pl.metaRel, pl.metaData)]) p
      = (getFile fs p).or (getFile (planned pl) p) := by
    refine (Dict.get?_append_absent _ _ _ _).trans ?_
    rw [show planned pl = [(pl.elemRel, pl.elemData)] ++ ([(pl.tableRel, pl.tableData)] ++ [(pl.metaRel, pl.metaData)]) from rfl]
    simp only [getFile_eq, Dict.get?_append, Option.or_assoc]
  unfold commit
  simp only
  split
  · exact hw
  · rw [getFile_put_other _ p "METADATA.json" _ hp]; exact hw

theorem commit_monotone (fs : Files) (pl : Plan) (p : String) (v : J) (hp : p ≠ "METADATA.json")
    (h : getFile fs p = some v) : getFile (commit fs pl).1 p = some v := by
  rw [commit_getFile fs pl p hp, h]; rfl

/-- **nothing is overwritten**: whatever `add_from_components` does — succeed or raise at any point —
every file that existed before, other than the index `METADATA.json`, has the same content afterwards -/
theorem add_monotone (fs : Files) (r : Req) (p : String) (v : J) (hp : p ≠ "METADATA.json")
    (h : getFile fs p = some v) : getFile (addFromComponents fs r).1 p = some v := by
  unfold addFromComponents
  cases hpc : precheck fs r with
  | error e => exact h
  | ok pl => exact commit_monotone fs pl p v hp h

/-- **a refused call leaves the directory unchanged** (missing component, no common element, name taken
by another file base, element or table file already there): nothing is written before the checks pass -/
theorem add_refused_noop (fs : Files) (r : Req) (e : PyErr) (h : precheck fs r = .error e) :
    addFromComponents fs r = (fs, some e) := by
  simp [addFromComponents, h]

/-! ### what a passed precheck means; the refusals are its contrapositives -/

theorem precheck_ok {fs : Files} {r : Req} {pl : Plan} (h : precheck fs r = .ok pl) :
    r.comps ≠ [] ∧ nameClash fs r = false ∧ baseClash fs r = false
    ∧ exists_ fs pl.elemRel = false ∧ exists_ fs pl.tableRel = false
    ∧ pl.elemRel = joinPath r.subdir (r.fileBase ++ "." ++ r.version ++ ".element.json")
    ∧ pl.tableRel = r.fileBase ++ "." ++ r.version ++ ".table.json"
    ∧ pl.metaRel = r.fileBase ++ ".metadata.json" := by
  rw [precheck, ite_error_eq_ok] at h
  obtain ⟨hc, h⟩ := h
  split at h
  · cases h
  · simp only [ite_error_eq_ok, Bool.not_eq_true, Except.ok.injEq] at h
    obtain ⟨_, h2, h3, h4, h5, rfl⟩ := h
    exact ⟨by simpa using hc, h2, h3, h4, h5, rfl, rfl, rfl⟩

/-- **an element or table file that exists is never replaced**: the checks refuse -/
theorem add_refuses_existing (fs : Files) (r : Req)
    (hex : exists_ fs (r.fileBase ++ "." ++ r.version ++ ".table.json") = true
      ∨ exists_ fs (joinPath r.subdir (r.fileBase ++ "." ++ r.version ++ ".element.json")) = true) :
    ∃ e, precheck fs r = .error e := by
  refine error_of_not_ok fun pl hpl => ?_
  obtain ⟨_, _, _, he, ht, hel, htl, _⟩ := precheck_ok hpl
  rw [hel] at he
  rw [htl] at ht
  rcases hex with h | h
  · rw [ht] at h; cases h
  · rw [he] at h; cases h

/-- **a file base that already belongs to a basis set of another name is refused before any write** (its metadata file is
kept as it is, so the new version would otherwise be filed under the other name and the given name would not be retrievable) -/
theorem add_refuses_foreign_file_base (fs : Files) (r : Req) (h : baseClash fs r = true) : ∃ e, precheck fs r = .error e :=
  error_of_not_ok fun _ hpl => by rw [(precheck_ok hpl).2.2.1] at h; cases h

/-- a name that the index already gives to another file base is refused before any write -/
theorem add_refuses_taken_name (fs : Files) (r : Req) (h : nameClash fs r = true) : ∃ e, precheck fs r = .error e :=
  error_of_not_ok fun _ hpl => by rw [(precheck_ok hpl).2.1] at h; cases h

/-- no component files ⇒ refused, directory unchanged -/
theorem add_needs_components (fs : Files) (r : Req) (h : r.comps = []) : addFromComponents fs r = (fs, some .runtime) := by
  simp [addFromComponents, precheck, h]

/-- sequences of additions: by induction, the monotonicity holds after any number of steps -/
theorem add_sequence_monotone (fs : Files) (rs : List Req) (p : String) (v : J) (hp : p ≠ "METADATA.json")
    (h : getFile fs p = some v) : getFile (rs.foldl (fun s r => (addFromComponents s r).1) fs) p = some v := by
  induction rs generalizing fs with
  | nil => exact h
  | cons r rest ih => exact ih _ (add_monotone fs r p v hp h)

/-- **a successful addition leaves exactly the planned element and table files behind** (and the planned metadata file
when the basis had none): reading those paths in the new directory gives the planned contents -/
theorem commit_writes_planned (fs : Files) (pl : Plan)
    (he : exists_ fs pl.elemRel = false) (ht : exists_ fs pl.tableRel = false)
    (hd : pl.elemRel ≠ pl.tableRel ∧ pl.elemRel ≠ pl.metaRel ∧ pl.tableRel ≠ pl.metaRel)
    (hm : pl.elemRel ≠ "METADATA.json" ∧ pl.tableRel ≠ "METADATA.json" ∧ pl.metaRel ≠ "METADATA.json") :
    getFile (commit fs pl).1 pl.elemRel = some pl.elemData
    ∧ getFile (commit fs pl).1 pl.tableRel = some pl.tableData
    ∧ (exists_ fs pl.metaRel = false → getFile (commit fs pl).1 pl.metaRel = some pl.metaData) := by
  have hnone : ∀ p, exists_ fs p = false → getFile fs p = none := fun p => (Dict.get?_eq_none fs p).2
  rw [commit_getFile fs pl _ hm.1, commit_getFile fs pl _ hm.2.1, commit_getFile fs pl _ hm.2.2, hnone _ he, hnone _ ht]
  refine ⟨by simp [getFile_eq, planned], by simp [getFile_eq, planned, hd.1], fun h => ?_⟩
  rw [hnone _ h]
  simp [getFile_eq, planned, hd.2.1, hd.2.2]

/-- … through `add_from_components`: when it does not raise, the element and table files it planned are there, and they
list exactly the elements common to all components, each pointing at all the components in the order given -/
theorem add_writes_planned (fs : Files) (r : Req) (pl : Plan) (hpre : precheck fs r = .ok pl)
    (he : exists_ fs pl.elemRel = false) (ht : exists_ fs pl.tableRel = false)
    (hd : pl.elemRel ≠ pl.tableRel ∧ pl.elemRel ≠ pl.metaRel ∧ pl.tableRel ≠ pl.metaRel)
    (hm : pl.elemRel ≠ "METADATA.json" ∧ pl.tableRel ≠ "METADATA.json" ∧ pl.metaRel ≠ "METADATA.json") :
    getFile (addFromComponents fs r).1 pl.elemRel = some pl.elemData
    ∧ getFile (addFromComponents fs r).1 pl.tableRel = some pl.tableData := by
  unfold addFromComponents
  rw [hpre]
  exact ⟨(commit_writes_planned fs pl he ht hd hm).1, (commit_writes_planned fs pl he ht hd hm).2.1⟩

/-- **nothing is overwritten by `add_basis_from_dict`** either — whether it succeeds or raises at any point -/
theorem addDict_monotone (expand : String → Except PyErr (List String)) (valid : Dict → Bool) (fs : Files) (bs : Dict)
    (r : DictReq) (refs : RefSpec) (p : String) (v : J) (hp : p ≠ "METADATA.json") (h : getFile fs p = some v) :
    getFile (addBasisFromDict expand valid fs bs r refs).1 p = some v := by
  unfold addBasisFromDict
  cases componentOf expand bs r refs with
  | error e => exact h
  | ok comp =>
    dsimp only
    split
    · exact h  -- validation fails
    · split
      · exact h  -- the component file exists
      · -- the component file goes behind the others, so `p` is still read from `fs`
        have happ : getFile (fs ++ [(r.compRel, .obj comp)]) p = some v := by
          rw [getFile_eq, Dict.get?_append, ← getFile_eq, h]
          rfl
        exact add_monotone _ _ p v hp happ

/-- **input that fails validation leaves the directory exactly as it was** -/
theorem addDict_invalid_noop (expand : String → Except PyErr (List String)) (valid : Dict → Bool) (fs : Files) (bs : Dict)
    (r : DictReq) (refs : RefSpec) (comp : Dict) (hc : componentOf expand bs r refs = .ok comp) (hv : valid comp = false) :
    addBasisFromDict expand valid fs bs r refs = (fs, some .runtime) := by
  simp [addBasisFromDict, hc, hv]

/-- a reference map that names an element the data does not have, names one twice, or cannot be expanded: refused, nothing written -/
theorem addDict_bad_refs_noop (expand : String → Except PyErr (List String)) (valid : Dict → Bool) (fs : Files) (bs : Dict)
    (r : DictReq) (refs : RefSpec) (e : PyErr) (hc : componentOf expand bs r refs = .error e) :
    addBasisFromDict expand valid fs bs r refs = (fs, some e) := by
  simp [addBasisFromDict, hc]

/-- **an existing component file is never replaced**: the call is refused and the directory is unchanged -/
theorem addDict_refuses_existing_component (expand : String → Except PyErr (List String)) (valid : Dict → Bool) (fs : Files)
    (bs : Dict) (r : DictReq) (refs : RefSpec) (hex : exists_ fs r.compRel = true) :
    (addBasisFromDict expand valid fs bs r refs).1 = fs ∧ (addBasisFromDict expand valid fs bs r refs).2.isSome = true := by
  unfold addBasisFromDict
  cases hc : componentOf expand bs r refs with
  | error e => simp
  | ok comp =>
    by_cases hv : valid comp = true
    · simp [hv, hex]
    · simp [hv]

/-- **what is stored is the validated dictionary**: once validation and the existence check have passed, the component
file holds exactly the dictionary that was validated — whatever `add_from_components` does afterwards -/
theorem addDict_component_stored (expand : String → Except PyErr (List String)) (valid : Dict → Bool) (fs : Files)
    (bs : Dict) (r : DictReq) (refs : RefSpec) (comp : Dict) (hc : componentOf expand bs r refs = .ok comp)
    (hv : valid comp = true) (hex : exists_ fs r.compRel = false) (hm : r.compRel ≠ "METADATA.json") :
    getFile (addBasisFromDict expand valid fs bs r refs).1 r.compRel = some (.obj comp) := by
  simp only [addBasisFromDict, hc, hv, hex, Bool.not_true, Bool.false_eq_true, if_false]
  exact add_monotone _ _ _ _ hm (by simp [getFile_eq, Dict.get?_append, (Dict.get?_eq_none fs _).2 hex])

/-! The validated dictionary is the caller's data with only the reference lists (and the two description fields) set. -/

/-- an element entry without its reference list -/
def stripRefs : J → J
  | .obj e => .obj (Dict.erase e "references")
  | j => j

/-- the elements in their order, each without its reference list: what attaching references must leave as it is -/
abbrev stripped (els : Dict) : Dict := els.map (fun kv => (kv.1, stripRefs kv.2))

theorem setRefs_ok {els els' : Dict} {el : String} {v : J} : setRefs els el v = .ok els' →
    ∃ e, Dict.get? els el = some (.obj e) ∧ els' = Dict.set els el (.obj (Dict.set e "references" v)) := by
  fun_cases setRefs els el v with
  | case1 e he => exact fun h => ⟨e, he, (Except.ok.inj h).symm⟩  -- the entry of `el` is an object
  | case2 | case3 => nofun  -- anything else, or no entry: an error

theorem strip_setRefs {els els' : Dict} {el : String} {v : J} (h : setRefs els el v = .ok els') : stripped els' = stripped els := by
  obtain ⟨e, he, rfl⟩ := setRefs_ok h
  exact Dict.map_set_of_get? stripRefs els el _ _ he (by simp [stripRefs, Dict.erase_set])

theorem strip_attachAll (v : J) (l : List (String × J)) : ∀ (acc : Except PyErr Dict) (out : Dict),
    l.foldl (fun acc kv => match acc with
      | .error e => .error e
      | .ok d => setRefs d kv.1 v) acc = .ok out → ∃ d, acc = .ok d ∧ stripped out = stripped d := by
  induction l with
  | nil => exact fun acc out h => ⟨out, h, rfl⟩
  | cons kv rest ih =>
    intro acc out h
    obtain ⟨d', hd', hs⟩ := ih _ out h
    cases acc with
    | error e => cases hd'
    | ok d => exact ⟨d, rfl, hs.trans (strip_setRefs hd')⟩

/-! The three recursive loops change the dictionary through `setRefs` only; each proof follows the branches of its loop. -/

theorem strip_attachAllIn (els : Dict) (zs : List String) (out : Dict) :
    attachRefs.attachAllIn els zs = .ok out → stripped out = stripped els := by
  fun_induction attachRefs.attachAllIn els zs with
  | case1 els =>  -- no element left
    intro h
    cases h
    rfl
  | case2 => nofun  -- `setRefs` fails
  | case3 els z zs els' hs ih => exact fun h => (ih h).trans (strip_setRefs hs)  -- references of `z` set, go on

theorem strip_attachGroup (orig : List String) (v : RefVal) (zs : List String) (st out : Dict × List String) :
    attachGroup orig v zs st = .ok out → stripped out.1 = stripped st.1 := by
  fun_induction attachGroup orig v zs st with
  | case1 st =>  -- no element left
    intro h
    cases h
    rfl
  | case2 | case3 | case4 => nofun  -- `el` unknown, `el` named before, `setRefs` fails
  | case5 el rest els done _ _ els' hs ih => exact fun h => (ih h).trans (strip_setRefs hs)  -- references of `el` set, go on

theorem strip_attachMap (expand : String → Except PyErr (List String)) (orig : List String) (m : List (String × RefVal))
    (st out : Dict × List String) : attachMap expand orig m st = .ok out → stripped out.1 = stripped st.1 := by
  fun_induction attachMap expand orig m st with
  | case1 st =>  -- no entry left
    intro h
    cases h
    rfl
  | case2 | case3 => nofun  -- `expand` fails, the group fails
  | case4 k v rest els done zs _ els' done' hg ih =>  -- the group of `k` attached, go on
    exact fun h => (ih h).trans (strip_attachGroup orig v zs (els, done) (els', done') hg)

/-- **attaching the references touches nothing but the reference lists**: same elements in the same order, every element
entry identical apart from its `references` key — for every form of the `refs` argument -/
theorem attachRefs_keeps_data (expand : String → Except PyErr (List String)) (els out : Dict) (refs : RefSpec)
    (h : attachRefs expand els refs = .ok out) :
    out.map (fun kv => (kv.1, stripRefs kv.2)) = els.map (fun kv => (kv.1, stripRefs kv.2)) := by
  have all : ∀ v, attachAll els v = .ok out → stripped out = stripped els := fun v h => by
    obtain ⟨d, hd, hs⟩ := strip_attachAll v els _ out h
    cases hd; exact hs
  cases refs with
  | none => exact all _ h
  | one k => exact all _ h
  | many ks => exact all _ h
  | map m =>
    simp only [attachRefs] at h
    split at h
    · cases h
    · rename_i els' done hm
      exact (strip_attachAllIn els' _ out h).trans (strip_attachMap expand _ m (els, []) (els', done) hm)
  | other => simp [attachRefs] at h

/-- the reference map is honoured: after `setRefs`, the element carries exactly the given list -/
theorem setRefs_get (els els' : Dict) (el : String) (v : J) (h : setRefs els el v = .ok els') :
    ∃ e', Dict.get? els' el = some (.obj e') ∧ Dict.get? e' "references" = some v := by
  obtain ⟨e, _, rfl⟩ := setRefs_ok h
  exact ⟨_, Dict.get?_set_same .., Dict.get?_set_same ..⟩

/-- a two-element dictionary and a reference map naming one element: both come back with a `references` entry
(the element the map does not name gets the empty list) -/
example :
    (attachRefs (fun k => .ok [k]) [("1", .obj [("electron_shells", .arr [])]), ("6", .obj [("ecp_electrons", .num "2")])]
      (.map [("6", .one "ref1")])).toOption.map (fun d => d.map (fun kv => (kv.1, match kv.2 with | .obj e => Dict.keys e | _ => [])))
      = some [("1", ["electron_shells", "references"]), ("6", ["ecp_electrons", "references"])] := by decide +kernel

end BSE.Props.C17
