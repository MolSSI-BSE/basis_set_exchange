import BSEProofs.Lemmas.IndexSpec
import BSEProofs.Lemmas.SortStr
/-! # C11 — the index, filters and role lookups agree with the data store -/
namespace BSE.Props.C11
open BSE.Index

/-- **latest_version is the maximum of the listed versions** (in the order the builder uses: string order) -/
theorem maxStr_is_max (l : List String) (m : String) (h : maxStr l = some m) :
    m ∈ l ∧ ∀ x ∈ l, ¬ m < x := by
  induction l generalizing m with
  | nil => cases h
  | cons a as ih =>
    unfold maxStr at h
    split at h
    · -- the tail has no maximum, so it is empty
      rename_i hm
      cases h
      cases as with
      | nil => simp
      | cons b bs =>
        unfold maxStr at hm
        split at hm <;> cases hm
    · rename_i m' hm
      obtain ⟨hin, hall⟩ := ih m' hm
      cases h
      split
      · rename_i hlt
        -- the head `a` is above the tail's maximum `m'`, so nothing of the tail is above `a`
        refine ⟨by simp, ?_⟩
        intro x hx
        rcases List.mem_cons.1 hx with rfl | hx
        · exact String.lt_irrefl x
        · exact fun hax => hall x hx (String.lt_trans hlt hax)
      · rename_i hlt
        refine ⟨by simp [hin], ?_⟩
        intro x hx
        rcases List.mem_cons.1 hx with rfl | hx
        · exact hlt
        · exact hall x hx

/-- sorting the index keeps exactly its entries -/
theorem mem_sortDict (d : Dict) (x : String × J) : x ∈ sortDict d ↔ x ∈ d := (BSE.SortStr.sortDict_perm d).mem_iff

/-- **family and role filters**: exactly the entries whose family / role equal the (lower-cased) criterion -/
theorem filter_family_role (md : List Entry) (family role : Option String) (e : Entry) :
    e ∈ filterEntries md none family role none
      ↔ e ∈ md ∧ (∀ f, family = some f → e.family = lower f) ∧ (∀ r, role = some r → e.role = lower r) := by
  unfold filterEntries
  cases family with
  | none =>
    cases role with
    | none => simp
    | some r => simp [List.mem_filter]
  | some f =>
    cases role with
    | none => simp [List.mem_filter]
    | some r =>
      simp only [List.mem_filter, beq_iff_eq, Option.some.injEq, forall_eq']
      constructor
      · rintro ⟨⟨h1, h2⟩, h3⟩; exact ⟨h1, h2, h3⟩
      · rintro ⟨h1, h2, h3⟩; exact ⟨⟨h1, h2⟩, h3⟩

/-- **element filter**: an entry survives with exactly those of its versions that contain every
requested element, and is dropped when no version is left -/
theorem filter_elements (md : List Entry) (els : List String) (e' : Entry) :
    e' ∈ filterEntries md none none none (some els)
      ↔ ∃ e ∈ md, e' = { e with versions := e.versions.filter fun v => els.all (v.2.contains ·) } ∧ e'.versions ≠ [] := by
  show e' ∈ (md.map _).filter _ ↔ _
  rw [List.mem_filter, List.mem_map]
  -- no `rfl` patterns: `simpa` is much slower once the record update is substituted for `e'`
  constructor
  · rintro ⟨⟨e, he, h⟩, hne⟩
    exact ⟨e, he, h.symm, by simpa using hne⟩
  · rintro ⟨e, he, h, hne⟩
    exact ⟨⟨e, he, h.symm⟩, by simpa using hne⟩

/-- **substring filter**, case-insensitive: the lower-cased criterion occurs in the (lower-case) key or in the lower-cased
display name -/
theorem filter_substr (md : List Entry) (s : String) (hs : s.isEmpty = false) (e : Entry) :
    e ∈ filterEntries md (some s) none none none
      ↔ e ∈ md ∧ (isSubstr (lower s) e.key = true ∨ isSubstr (lower s) (lower e.display) = true) := by
  unfold filterEntries
  simp [hs, List.mem_filter]

/-- the criteria are ANDed: filtering by all of them is filtering by each in turn -/
theorem filter_and (md : List Entry) (s f r : Option String) (els : Option (List String)) :
    filterEntries md s f r els
      = filterEntries (filterEntries (filterEntries (filterEntries md none f none none) none none r none) none none none els) s none none none := by
  cases s <;> cases f <;> cases r <;> cases els <;> rfl

def demoMd : List Entry :=
  [⟨"sto-3g", "STO-3G", "sto", "orbital", [("0", ["1", "2"]), ("1", ["1", "2", "3"])]⟩,
   ⟨"def2-svp", "def2-SVP", "ahlrichs", "orbital", [("1", ["1", "6"])]⟩,
   ⟨"def2-svp-jkfit", "def2-SVP-JKFIT", "ahlrichs_fit", "jkfit", [("1", ["1", "6"])]⟩]

example : (filterEntries demoMd (some "SVP") none (some "ORBITAL") (some ["6"])).map (·.key) = ["def2-svp"]
    ∧ (filterEntries demoMd none none none (some ["3"])).map (fun e => (e.key, e.versions.map (·.1))) = [("sto-3g", ["1"])] := by
  decide +kernel
example : maxStr ["0", "2", "1"] = some "2" := by decide +kernel

open BSE.Compose in
/-- **the versions the index builder lists for a basis are exactly its table files**: every listed version names one of
the table files of that version, with that file's path and the (numerically sorted) elements of its composition; and the
version of every table file is listed -/
theorem index_versions_are_table_files (dir : Dir) (tables : List String) (res : Dict × Option J × Option Dict)
    (h : versionInfo dir tables = .ok res) :
    (∀ ver r, Dict.get? res.1 ver = some r → RecordOf dir tables ver r)
    ∧ (∀ t ∈ tables, (Dict.get? res.1 (versionField t)).isSome = true) := by
  rw [versionInfo_eq] at h
  obtain ⟨h1, h2, _⟩ := foldlM_viStep dir tables tables (fun _ h => h) ([], none, none) res
    (by intro ver r hg; simp at hg) h
  exact ⟨h1, h2⟩

/-- **one entry per listed name, under the transformed name, in the order the metadata file lists them** -/
theorem alias_keys (names : List String) (mk : String → List String → J) :
    (aliasEntries names mk).map (·.1) = names.map transformName := by
  simp [aliasEntries, Function.comp_def]

/-- **each alias carries its own display name and the other names** -/
theorem alias_own_names (names : List String) (desc : J) (latest : String) (tags : J) (base rel : String) (fam role ft aux : J)
    (vinfo : Dict) (e : String × J) (he : e ∈ aliasEntries names (commonRecord desc latest tags base rel fam role ft aux vinfo)) :
    ∃ n ∈ names, e.1 = transformName n ∧
      ∃ d, e.2 = .obj d ∧ Dict.get? d "display_name" = some (.str n) ∧
        Dict.get? d "other_names" = some (.arr ((names.erase n).map .str)) := by
  simp only [aliasEntries, List.mem_map] at he
  obtain ⟨n, hn, rfl⟩ := he
  exact ⟨n, hn, rfl, _, rfl, by simp⟩

/-- **every alias maps to the same record**: any two entries of one basis agree on every field other than
`display_name` and `other_names` (description, latest version, tags, file base, family, role, function types,
auxiliaries and the whole version table) -/
theorem alias_records_agree (names : List String) (desc : J) (latest : String) (tags : J) (base rel : String) (fam role ft aux : J)
    (vinfo : Dict) (e1 e2 : String × J)
    (h1 : e1 ∈ aliasEntries names (commonRecord desc latest tags base rel fam role ft aux vinfo))
    (h2 : e2 ∈ aliasEntries names (commonRecord desc latest tags base rel fam role ft aux vinfo)) :
    ∃ d1 d2, e1.2 = .obj d1 ∧ e2.2 = .obj d2 ∧ d1.drop 2 = d2.drop 2 ∧ Dict.keys d1 = Dict.keys d2 := by
  simp only [aliasEntries, List.mem_map] at h1 h2
  obtain ⟨n1, _, rfl⟩ := h1
  obtain ⟨n2, _, rfl⟩ := h2
  exact ⟨_, _, rfl, rfl, rfl, rfl⟩

/-- what the common part holds: the fields of the composed basis and the version table -/
theorem alias_common_fields (desc : J) (latest : String) (tags : J) (base rel : String) (fam role ft aux : J) (vinfo : Dict)
    (disp : String) (others : List String) :
    ∃ d, commonRecord desc latest tags base rel fam role ft aux vinfo disp others = .obj d ∧
      Dict.get? d "description" = some desc ∧ Dict.get? d "latest_version" = some (.str latest) ∧
      Dict.get? d "family" = some fam ∧ Dict.get? d "role" = some role ∧ Dict.get? d "function_types" = some ft ∧
      Dict.get? d "auxiliaries" = some aux ∧ Dict.get? d "versions" = some (.obj vinfo) ∧ Dict.get? d "basename" = some (.str base) :=
  ⟨_, rfl, by simp⟩

/-- two names: two entries, each carrying the other name -/
example : (aliasEntries ["6-31G**", "6-31G(d,p)"] (fun _ o => .arr (o.map .str))).map (fun e => (e.1, match e.2 with | .arr [.str s] => s | _ => ""))
    = [("6-31g_st__st_", "6-31G(d,p)"), ("6-31g(d,p)", "6-31G**")] := by decide +kernel

open BSE.Compose in
/-- **the index, as one statement.**  If `create_metadata_file` returns, the index holds exactly the records that the
metadata files of the directory contribute (for each: one record per listed name, `alias_*` above; versions = its table files,
`index_versions_are_table_files`), nothing else, no name twice — in sorted order; a name that occurs twice makes it raise. -/
theorem createMetadata_spec (dir : Dir) (paths : List String) (d : Dict) (h : createMetadata dir paths = .ok d) :
    (∀ e, e ∈ d ↔ ∃ m ∈ paths.filter isMeta, ∃ es, entriesOf dir (paths.filter isTable) m = .ok es ∧ e ∈ es)
    ∧ (d.map (·.1)).Nodup := by
  simp only [createMetadata_eq, bind_eq_ok, pure_eq_ok] at h
  obtain ⟨all, hall, rfl⟩ := h
  -- before sorting, the index is the concatenation `ess.flatten` of what the files contribute
  obtain ⟨ess, hess, rfl, hn⟩ := metaFold_spec dir _ _ [] all hall .nil
  refine ⟨fun e => ?_, ((BSE.SortStr.sortDict_perm _).map Prod.fst).nodup_iff.2 hn⟩
  simp only [mem_sortDict, List.nil_append, List.mem_flatten, mapEx_mem hess]
  exact ⟨fun ⟨es, ⟨m, hm, hes⟩, he⟩ => ⟨m, hm, es, hes, he⟩, fun ⟨m, hm, es, hes, he⟩ => ⟨es, ⟨m, hm, hes⟩, he⟩⟩

/-- **`get_families` enumerates exactly the families of the index**: every family of an entry, nothing else, each once, in
increasing order -/
theorem families_exact (md : List Entry) :
    (∀ f, f ∈ families md ↔ ∃ e ∈ md, e.family = f) ∧ (families md).Nodup ∧ (families md).Pairwise (· < ·) := by
  refine ⟨fun f => ?_, BSE.SortStr.sortDedupStr_nodup _, BSE.SortStr.sortDedupStr_sorted _⟩
  unfold families
  rw [BSE.SortStr.mem_sortDedupStr]
  simp [List.mem_map]

/-- **`get_all_basis_names` enumerates exactly the index**: the display names of the entries, each as often as it is listed
(a permutation, so neither an entry nor an alias is dropped or invented), in non-decreasing order -/
theorem allNames_exact (md : List Entry) :
    (allNames md).Perm (md.map (·.display)) ∧ (allNames md).Pairwise (fun a b => ¬ b < a) :=
  ⟨BSE.SortStr.sortDup_perm _, BSE.SortStr.sortDup_sorted _⟩

example : families [⟨"b", "B", "f2", "orbital", []⟩, ⟨"a", "A", "f1", "orbital", []⟩, ⟨"c", "C", "f2", "orbital", []⟩] = ["f1", "f2"]
    ∧ allNames [⟨"b", "B", "f2", "orbital", []⟩, ⟨"a", "A", "f1", "orbital", []⟩, ⟨"c", "B", "f2", "orbital", []⟩] = ["A", "B", "B"] := by
  decide +kernel

end BSE.Props.C11
