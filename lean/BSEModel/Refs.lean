/-! Model of `references.compact_references` (grouping of elements by reference information) and of
`notes.process_notes`. -/
namespace BSE.Refs
open BSE

variable {ρ : Type} [DecidableEq ρ]

/-- add element `el` with reference info `r`: to the first group with equal info, else a new group -/
def addToGroups (el : String) (r : ρ) : List (ρ × List String) → List (ρ × List String)
  | [] => [(r, [el])]
  | (r0, els) :: rest => if r0 = r then (r0, els ++ [el]) :: rest else (r0, els) :: addToGroups el r rest

/-- `compact_references` without the key resolution: elements (already sorted by Z) ↦ groups -/
def compactGroups (els : List (String × ρ)) : List (ρ × List String) :=
  els.foldl (fun gs e => addToGroups e.1 e.2 gs) []

/-- is `pat` a substring of `s` -/
def isSub (pat : List Char) : List Char → Bool
  | [] => pat.isPrefixOf []
  | c :: cs => pat.isPrefixOf (c :: cs) || isSub pat cs

def insertS (x : String) : List String → List String
  | [] => [x]
  | y :: ys => if x < y then x :: y :: ys else if x = y then y :: ys else y :: insertS x ys

def sortKeys (l : List String) : List String := l.foldr insertS []

def banner : String :=
  "\n\n-------------------------------------------------\n REFERENCES MENTIONED ABOVE\n (not necessarily references for the basis sets)\n-------------------------------------------------\n"

/-- `process_notes(notes, ref_data)`; `refText` = `references.reference_text` (not modelled: uses textwrap) -/
def processNotes (notes : String) (keys : List String) (refText : String → String) : String :=
  let found := sortKeys (keys.filter fun k => isSub k.toList notes.toList)
  if found.isEmpty then notes
  else notes ++ banner ++ String.join (found.map fun k => refText k ++ "\n\n")

end BSE.Refs
