import BSEModel.Num
import BSEModel.Matrix
import BSEModel.Shell
import BSEModel.Manip
import BSEModel.MakeGeneral
import BSEModel.Spdf
import BSEModel.Pipeline
import BSEModel.Notation
import BSEModel.ManipOps
import BSEModel.Canon
import BSEModel.Validator
import BSEModel.Json
import BSEModel.Compose
import BSEModel.Api
import BSEModel.Compare
import BSEModel.Memo
import BSEModel.Augment
import BSEModel.AutoAux
import BSEModel.Header
import BSEModel.Printing
import BSEModel.Index
import BSEModel.Refs
import BSEModel.AddBasis
import BSEModel.Bundle
import BSEModel.Nwchem
import BSEModel.NwchemInst
import BSEModel.G94
import BSEModel.G94Inst
import BSEModel.G94Ecp
import BSEModel.RefRender
import BSEModel.Turbomole
import BSEModel.TurbomoleInst
import BSEModel.MemoHeap
import BSEModel.Heap
import BSEModel.Own
import BSEModel.ReadWrite
import BSEModel.TurbomoleEcp
