/-! Insertion sort, once.  The model has one insertion function per key and element type (`insertKV`, `insertDup`,
`insertAm`, `insertPot`: keep repetitions; `insertStr`, `insertS`, `insertSorted`: drop them).  Each
satisfies the two defining equations below (by `rfl`, but for `insertDup`, whose test is the other way round), and everything
the proofs need of a sort — same elements, sorted — follows from the equations alone.  (`Index.insertNum`, which orders element
keys by `toNat!`, is the one insertion function no theorem speaks of.)  `pairwise_eq_or_rel` is what `Pairwise` says about two
members of a list in either order; the uniqueness arguments of C09 and C19 use it. -/
namespace BSE.InsSort
variable {α : Type}

theorem pairwise_eq_or_rel.{u} {β : Type u} {S : β → β → Prop} {l : List β} (h : l.Pairwise S) {x y : β} (hx : x ∈ l) (hy : y ∈ l) :
    x = y ∨ S x y ∨ S y x := by
  induction h with
  | nil => cases hx
  | cons hhead _ ih =>
    rcases List.mem_cons.1 hx with rfl | hx' <;> rcases List.mem_cons.1 hy with rfl | hy'
    · exact .inl rfl
    · exact .inr (.inl (hhead _ hy'))
    · exact .inr (.inr (hhead _ hx'))
    · exact ih hx' hy'

structure IsInsert (before : α → α → Prop) [DecidableRel before] (ins : α → List α → List α) : Prop where
  nil : ∀ x, ins x [] = [x]
  cons : ∀ x y ys, ins x (y :: ys) = if before x y then x :: y :: ys else y :: ins x ys

namespace IsInsert
variable {before : α → α → Prop} [DecidableRel before] {ins : α → List α → List α}

theorem perm (hi : IsInsert before ins) (x : α) (l : List α) : (ins x l).Perm (x :: l) := by
  induction l with
  | nil => rw [hi.nil]
  | cons y ys ih =>
    rw [hi.cons]
    split
    · exact .refl _
    · exact (ih.cons y).trans (.swap x y ys)

theorem sort_perm (hi : IsInsert before ins) (l : List α) : (l.foldr ins []).Perm l := by
  induction l with
  | nil => exact .refl _
  | cons a as ih => exact (hi.perm a _).trans (ih.cons a)

theorem mem_sort (hi : IsInsert before ins) (l : List α) (x : α) : x ∈ l.foldr ins [] ↔ x ∈ l := (hi.sort_perm l).mem_iff

theorem sorted (hi : IsInsert before ins) {R : α → α → Prop} (htrans : ∀ a b c, R a b → R b c → R a c)
    (hyes : ∀ x y, before x y → R x y) (hno : ∀ x y, ¬ before x y → R y x)
    (x : α) (l : List α) (h : l.Pairwise R) : (ins x l).Pairwise R := by
  induction l with
  | nil => rw [hi.nil]; exact List.pairwise_singleton ..
  | cons y ys ih =>
    obtain ⟨hy, hys⟩ := List.pairwise_cons.1 h
    rw [hi.cons]
    split
    · rename_i hb
      -- `x` goes in front: it stands before `y`, so before all that `y` stands before
      refine List.pairwise_cons.2 ⟨?_, h⟩
      intro z hz
      rcases List.mem_cons.1 hz with rfl | hz
      · exact hyes x z hb
      · exact htrans x y z (hyes x y hb) (hy z hz)
    · rename_i hb
      -- `y` stays in front: behind it come `x`, which does not stand before `y`, and the old tail
      refine List.pairwise_cons.2 ⟨?_, ih hys⟩
      intro z hz
      rcases List.mem_cons.1 ((hi.perm x ys).mem_iff.1 hz) with rfl | hz
      · exact hno z y hb
      · exact hy z hz

theorem sort_sorted (hi : IsInsert before ins) {R : α → α → Prop} (htrans : ∀ a b c, R a b → R b c → R a c)
    (hyes : ∀ x y, before x y → R x y) (hno : ∀ x y, ¬ before x y → R y x) (l : List α) :
    (l.foldr ins []).Pairwise R := by
  induction l with
  | nil => exact .nil
  | cons a as ih => exact hi.sorted htrans hyes hno a _ ih

end IsInsert

/-- the variant for `sorted(set(…))`: an element that is there already is not inserted again -/
structure IsInsertDedup (lt : α → α → Prop) [DecidableRel lt] [DecidableEq α] (ins : α → List α → List α) : Prop where
  nil : ∀ x, ins x [] = [x]
  cons : ∀ x y ys, ins x (y :: ys) = if lt x y then x :: y :: ys else if x = y then y :: ys else y :: ins x ys

namespace IsInsertDedup
variable {lt : α → α → Prop} [DecidableRel lt] [DecidableEq α] {ins : α → List α → List α}

theorem mem (hi : IsInsertDedup lt ins) (x y : α) (l : List α) : y ∈ ins x l ↔ y = x ∨ y ∈ l := by
  induction l with
  | nil => simp [hi.nil]
  | cons a as ih =>
    rw [hi.cons]
    split
    · simp
    · split
      · simp_all
      · simp only [List.mem_cons, ih]; exact or_left_comm

theorem mem_sort (hi : IsInsertDedup lt ins) (l : List α) (y : α) : y ∈ l.foldr ins [] ↔ y ∈ l := by
  induction l with
  | nil => simp
  | cons a as ih => rw [List.foldr_cons, hi.mem, ih, List.mem_cons]

theorem sorted (hi : IsInsertDedup lt ins) (htrans : ∀ a b c, lt a b → lt b c → lt a c)
    (htri : ∀ x y, ¬ lt x y → x ≠ y → lt y x) (x : α) (l : List α) (h : l.Pairwise lt) : (ins x l).Pairwise lt := by
  induction l with
  | nil => rw [hi.nil]; exact List.pairwise_singleton ..
  | cons a as ih =>
    obtain ⟨ha, has⟩ := List.pairwise_cons.1 h
    rw [hi.cons]
    split
    · rename_i h1
      refine List.pairwise_cons.2 ⟨?_, h⟩
      intro z hz
      rcases List.mem_cons.1 hz with rfl | hz
      · exact h1
      · exact htrans x a z h1 (ha z hz)
    · rename_i h1
      split
      · exact h
      · rename_i h2
        refine List.pairwise_cons.2 ⟨?_, ih has⟩
        intro z hz
        rcases (hi.mem x z as).1 hz with rfl | hz
        · exact htri z a h1 h2
        · exact ha z hz

theorem sort_sorted (hi : IsInsertDedup lt ins) (htrans : ∀ a b c, lt a b → lt b c → lt a c)
    (htri : ∀ x y, ¬ lt x y → x ≠ y → lt y x) (l : List α) : (l.foldr ins []).Pairwise lt := by
  induction l with
  | nil => exact .nil
  | cons a as ih => exact hi.sorted htrans htri a _ ih

end IsInsertDedup
end BSE.InsSort
