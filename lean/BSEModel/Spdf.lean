import BSEModel.Manip
/-! `manip.py: uncontract_spdf` (`max_am = k`) on one element's shell list; it keeps the contracted functions with
their multiplicities. -/
namespace BSE
variable {ν : Type}

/-- `sh['function_type'].split('_')[0]` -/
def baseType (ft : String) : String := String.ofList (ft.toList.takeWhile (· != '_'))

/-- a shell whose momenta are all below 2 carries no spherical/cartesian tag -/
def lowType (ams : List Nat) (ft : String) : String :=
  if ams ≠ [] ∧ ams.foldl max 0 < 2 then baseType ft else ft

def splitFused (k : Nat) (sh : Shell ν) : List (Shell ν) × Shell ν :=
  let pairs := sh.am.zip sh.coefs
  let hi := pairs.filter (fun p => p.1 > k)
  let lo := pairs.filter (fun p => ¬ p.1 > k)
  (hi.map (fun p => { sh with am := [p.1], coefs := [p.2], ftype := lowType [p.1] sh.ftype }),
   { sh with am := lo.map (·.1), coefs := lo.map (·.2), ftype := lowType (lo.map (·.1)) sh.ftype })

/-- one loop iteration of uncontract_spdf, `acc` = `newshells` so far -/
def spdfStep (k : Nat) (acc : List (Shell ν)) (sh : Shell ν) : List (Shell ν) :=
  if sh.am.length > 1 then
    (if (splitFused k sh).2.am = [] then [] else [(splitFused k sh).2]) ++ acc ++ (splitFused k sh).1   -- the remainder only if a member is left in it
  else acc ++ [sh]

def uncontractSpdf (k : Nat) (shells : List (Shell ν)) : List (Shell ν) :=
  shells.foldl (spdfStep k) []

/-! Both kinds of shell that `splitFused` builds are `sh.piece ps` for a list `ps` of (momentum, column) pairs of `sh`:
the members split off are the pieces of one pair each, the remainder is the piece of the pairs at or below `max_am`. -/

/-- the shell `uncontract_spdf` builds from some of the (momentum, column) pairs of `sh` -/
def Shell.piece (sh : Shell ν) (ps : List (Nat × List ν)) : Shell ν :=
  { sh with am := ps.map (·.1), coefs := ps.map (·.2), ftype := lowType (ps.map (·.1)) sh.ftype }

theorem splitFused_eq (k : Nat) (sh : Shell ν) :
    splitFused k sh = (((sh.am.zip sh.coefs).filter (fun p => p.1 > k)).map fun p => sh.piece [p],
      sh.piece ((sh.am.zip sh.coefs).filter (fun p => ¬ p.1 > k))) := rfl

theorem Shell.funcs_piece (val : ν → Rat) (sh : Shell ν) (ps : List (Nat × List ν)) :
    (sh.piece ps).funcs val = ps.map fun p => (p.1, colFn val sh.exps p.2) :=
  Shell.funcs_eq_map val _ ps rfl rfl

/-- the shells one iteration adds: the remainder of a fused shell (if a member is left in it) and the members split
off; any other shell itself -/
def spdfParts (k : Nat) (sh : Shell ν) : List (Shell ν) :=
  if sh.am.length > 1 then
    (if (splitFused k sh).2.am = [] then [] else [(splitFused k sh).2]) ++ (splitFused k sh).1
  else [sh]

theorem mem_spdfParts (k : Nat) (sh s : Shell ν) :
    s ∈ spdfParts k sh ↔ (¬ sh.am.length > 1 ∧ s = sh) ∨
      (sh.am.length > 1 ∧ ((s = (splitFused k sh).2 ∧ (splitFused k sh).2.am ≠ []) ∨ s ∈ (splitFused k sh).1)) := by
  unfold spdfParts
  by_cases hf : sh.am.length > 1
  · by_cases hr : (splitFused k sh).2.am = [] <;> simp [hf, hr]
  · simp [hf]

/-- the fold prepends remainders and appends the rest: up to order it is `flatMap` -/
theorem uncontractSpdf_perm (k : Nat) (shells : List (Shell ν)) :
    (uncontractSpdf k shells).Perm (shells.flatMap (spdfParts k)) := by
  suffices h : ∀ acc, (shells.foldl (spdfStep k) acc).Perm (acc ++ shells.flatMap (spdfParts k)) from h []
  induction shells with
  | nil => intro acc; simp
  | cons a as ih =>
    intro acc
    refine (ih _).trans ?_
    rw [List.flatMap_cons, ← List.append_assoc]
    refine List.Perm.append_right _ ?_
    unfold spdfStep spdfParts
    split
    · rw [← List.append_assoc]
      exact List.perm_append_comm.append_right _
    · rfl

/-- membership in the folded list (the remainder of a fused shell is there only if a member is left in it) -/
theorem mem_uncontractSpdf (k : Nat) (shells : List (Shell ν)) (s : Shell ν) :
    s ∈ uncontractSpdf k shells ↔
      ∃ sh ∈ shells, (¬ sh.am.length > 1 ∧ s = sh) ∨
        (sh.am.length > 1 ∧ ((s = (splitFused k sh).2 ∧ (splitFused k sh).2.am ≠ []) ∨ s ∈ (splitFused k sh).1)) := by
  simp only [(uncontractSpdf_perm k shells).mem_iff, List.mem_flatMap, mem_spdfParts]

theorem spdfParts_funcs_perm (val : ν → Rat) (k : Nat) (sh : Shell ν) :
    ((spdfParts k sh).flatMap (·.funcs val)).Perm (sh.funcs val) := by
  unfold spdfParts
  split
  · rename_i hf
    -- in terms of the (momentum, column) pairs: those at or below `k`, then those above, against all of them
    have hlo : (if (splitFused k sh).2.am = [] then [] else [(splitFused k sh).2]).flatMap (·.funcs val)
        = (splitFused k sh).2.funcs val := by
      split
      · rename_i h0
        rw [splitFused_eq] at h0 ⊢
        -- a remainder without momenta has no columns either, hence no functions
        rw [Shell.funcs_piece, List.map_eq_nil_iff.1 h0]
        rfl
      · exact List.flatMap_singleton _ _
    rw [List.flatMap_append, hlo, splitFused_eq, List.flatMap_map, Shell.funcs_piece, Shell.funcs_eq val sh,
      Shell.amCols, if_pos hf]
    simp only [Shell.funcs_piece, List.map_cons, List.map_nil, ← List.map_eq_flatMap, ← List.map_append, decide_not]
    exact (List.perm_append_comm.trans (List.filter_append_perm _ _)).map _
  · simp

theorem uncontractSpdf_funcs_perm (val : ν → Rat) (k : Nat) (shells : List (Shell ν)) :
    ((uncontractSpdf k shells).flatMap (·.funcs val)).Perm (shells.flatMap (·.funcs val)) := by
  refine ((uncontractSpdf_perm k shells).flatMap_right _).trans ?_
  rw [List.flatMap_assoc]
  induction shells with
  | nil => rfl
  | cons a as ih => exact (spdfParts_funcs_perm val k a).append ih

/-- **uncontract_spdf keeps the set of contracted functions (any `max_am`).** -/
theorem funcSet_uncontractSpdf (val : ν → Rat) (k : Nat) (shells : List (Shell ν)) (f : Func) :
    funcSet val (uncontractSpdf k shells) f ↔ funcSet val shells f := by
  rw [funcSet_iff, funcSet_iff]
  exact (uncontractSpdf_funcs_perm val k shells).mem_iff

end BSE
