import BSEProofs.Lemmas.Dict
import BSEModel.Api
import BSEProofs.Lemmas.ComposeSpec
/-! # C05 — all spellings of a query select the same data

On the model of the `get_basis` front end (`BSEModel/Api.lean`; `Notation.transformName`): name → index key, version
defaulting, element selection.  `applySelection` is what `get_basis` does between composing and the option pipeline. -/
namespace BSE.Props.C05
open BSE.Api BSE.Notation

/-- **names are case-insensitive**: two spellings that agree up to (ASCII) case transform to the same
index key -/
theorem transform_case_insensitive (a b : Str) (h : lowerAscii a = lowerAscii b) :
    transformName a = transformName b := by
  unfold transformName; rw [h]

/-- **empty selection means all elements** -/
theorem select_empty_is_all (els : Dict) : selectElements els [] = .ok els := by
  simp [selectElements]

theorem selectElements_eq (els : Dict) (sel : List String) (hne : sel ≠ []) :
    selectElements els sel
      = if ∀ z ∈ sel, Dict.has els z = true then .ok (els.filter fun kv => sel.contains kv.1) else .error .key := by
  unfold selectElements
  rw [if_neg (by simpa using hne)]
  by_cases h : ∀ z ∈ sel, Dict.has els z = true
  · rw [if_pos h, if_neg (by simpa using h)]
  · rw [if_neg h, if_pos (by simpa using h)]

/-- **an element that the basis does not define ⇒ KeyError, never partial data** -/
theorem select_missing_keyerror (els : Dict) (sel : List String) (z : String) (hz : z ∈ sel)
    (hmiss : Dict.has els z = false) : selectElements els sel = .error .key := by
  rw [selectElements_eq _ _ (List.ne_nil_of_mem hz), if_neg fun h => by simp [h z hz] at hmiss]

/-- **the result is exactly the full basis restricted to the selected set**: every kept entry is
the original (key, data) pair, the file order is kept, and a key is kept iff it was selected -/
theorem select_is_restriction (els r : Dict) (sel : List String) (hne : sel ≠ [])
    (h : selectElements els sel = .ok r) :
    r = els.filter (fun kv => sel.contains kv.1) ∧ r.Sublist els
      ∧ (∀ kv, kv ∈ r ↔ kv ∈ els ∧ kv.1 ∈ sel) ∧ (∀ z ∈ sel, Dict.has els z = true) := by
  rw [selectElements_eq _ _ hne] at h
  split at h
  · rename_i hall
    cases h
    exact ⟨rfl, List.filter_sublist, fun kv => by simp [List.mem_filter], hall⟩
  · cases h

/-- **the notation does not matter**: two selections with the same expansion *set* (any order, any
repetitions — ints, numeric strings, symbols in any case, ranges and comma lists all expand to such
lists, see C20) give the same result, error cases included -/
theorem select_notation_invariant (els : Dict) (s1 s2 : List String) (h : ∀ z, z ∈ s1 ↔ z ∈ s2) :
    selectElements els s1 = selectElements els s2 := by
  have hf : els.filter (fun kv => s1.contains kv.1) = els.filter (fun kv => s2.contains kv.1) :=
    List.filter_congr fun kv _ => by simp [h kv.1]
  have hnil : s1 = [] ↔ s2 = [] := by simp only [List.eq_nil_iff_forall_not_mem, h]
  by_cases h1 : s1 = []
  · rw [h1, hnil.1 h1]
  · simp only [selectElements_eq _ _ h1, selectElements_eq _ _ (mt hnil.2 h1), hf, h]

/-- **version as int or as str is the same query** -/
theorem version_int_str (latest : String) (vs : List String) (n : Int) :
    resolveVersion latest vs (.int n) = resolveVersion latest vs (.str (toString n)) := rfl

/-- **no version means the latest** -/
theorem version_default_latest (latest : String) (vs : List String) (h : latest ∈ vs) :
    resolveVersion latest vs .none = .ok latest := by
  simp [resolveVersion, h]

/-- **an unknown version is a KeyError** -/
theorem version_unknown_keyerror (latest : String) (vs : List String) (s : String) (h : s ∉ vs) :
    resolveVersion latest vs (.str s) = .error .key := by
  simp [resolveVersion, h]

/-- **`None` and the empty selection mean all elements**: only the display name is set -/
theorem apply_none_or_empty (basis : Dict) (display : String) :
    applySelection basis display none = .ok (Dict.set basis "name" (.str display))
    ∧ applySelection basis display (some []) = .ok (Dict.set basis "name" (.str display)) := by
  constructor <;> rfl

/-- **a selection is the restriction, with `function_types` recomputed for the subset, the display name set, and every other
field of the composed basis left as it is** -/
theorem apply_selection_spec (basis els r : Dict) (display : String) (sel : List String) (hne : sel ≠ [])
    (hels : Dict.get? basis "elements" = some (.obj els))
    (h : applySelection basis display (some sel) = .ok r) :
    Dict.get? r "elements" = some (.obj (els.filter (fun kv => sel.contains kv.1)))
    ∧ Dict.get? r "function_types" = some (Compose.wholeTypes (els.filter (fun kv => sel.contains kv.1)))
    ∧ Dict.get? r "name" = some (.str display)
    ∧ (∀ z ∈ sel, Dict.has els z = true)
    ∧ (∀ k, k ≠ "name" → k ≠ "elements" → k ≠ "function_types" → Dict.get? r k = Dict.get? basis k) := by
  simp only [applySelection, List.isEmpty_eq_false_iff.2 hne, Bool.false_eq_true, if_false, bind_eq_ok, pure_eq_ok,
    Compose.getKey_eq_ok, Compose.asObj_eq_ok, Dict.get?_set, hels] at h
  obtain ⟨_, h1, _, rfl, els', hs, rfl⟩ := h
  cases h1
  obtain ⟨rfl, _, _, hall⟩ := select_is_restriction els els' sel hne hs
  exact ⟨by simp [Dict.get?_set], by simp [Dict.get?_set], by simp [Dict.get?_set], hall,
    fun k h1 h2 h3 => by simp [Dict.get?_set, Ne.symm h1, Ne.symm h2, Ne.symm h3]⟩

/-- **an element the basis does not define ⇒ KeyError from the whole front end, never a partial basis** -/
theorem apply_missing_keyerror (basis els : Dict) (display : String) (sel : List String) (z : String) (hz : z ∈ sel)
    (hels : Dict.get? basis "elements" = some (.obj els)) (hmiss : Dict.has els z = false) :
    applySelection basis display (some sel) = .error .key := by
  simp [applySelection, List.ne_nil_of_mem hz, Compose.getKey, Dict.get?_set, hels, Compose.asObj, bind, Except.bind,
    select_missing_keyerror els sel z hz hmiss]

/-- **restricting a restriction**: selecting `s2 ⊆ s1` from the result for `s1` is selecting `s2` from the full basis
(so a subset can be taken from a cached larger answer — and the C03/C14 harnesses may restrict a composed basis themselves) -/
theorem select_select (els r1 : Dict) (s1 s2 : List String) (h1 : selectElements els s1 = .ok r1)
    (hsub : ∀ z ∈ s2, z ∈ s1) (hne : s2 ≠ []) :
    selectElements r1 s2 = selectElements els s2 := by
  have hne1 : s1 ≠ [] := by
    obtain ⟨a, as, rfl⟩ := List.exists_cons_of_ne_nil hne
    exact List.ne_nil_of_mem (hsub a (by simp))
  obtain ⟨rfl, _, _, hall⟩ := select_is_restriction els r1 s1 hne1 h1
  have hf : (els.filter fun kv => s1.contains kv.1).filter (fun kv => s2.contains kv.1) = els.filter fun kv => s2.contains kv.1 := by
    rw [List.filter_filter]
    exact List.filter_congr fun kv _ => by by_cases hk : kv.1 ∈ s2 <;> simp [hk, hsub]
  have hc : (∀ z ∈ s2, Dict.has (els.filter fun kv => s1.contains kv.1) z = true) ↔ ∀ z ∈ s2, Dict.has els z = true :=
    forall₂_congr fun z hz => by rw [Dict.has_filter_keys fun k => s1.contains k]; simp [hsub z hz]
  simp only [selectElements_eq _ _ hne, hf, hc]

def demoEls : Dict := [("8", .str "O"), ("1", .str "H"), ("6", .str "C")]
example : (selectElements demoEls ["1", "8", "1"]).toOption.map Dict.keys = some ["8", "1"]
    ∧ (selectElements demoEls ["1", "7"]).toOption = none := by decide +kernel
example : (resolveVersion "1" ["0", "1"] (.int 0)).toOption = some "0" := by decide +kernel
def demoBasis : Dict := [("name", .str "x"), ("description", .str "d"), ("elements", .obj demoEls), ("function_types", .arr [])]
example : ((applySelection demoBasis "X" (some ["1"])).toOption.bind (Dict.get? · "elements")).map (fun j => (j.asObj?.getD []).map (·.1)) = some ["1"]
    ∧ (applySelection demoBasis "X" (some ["7"])).toOption.isNone = true := by decide +kernel

end BSE.Props.C05
