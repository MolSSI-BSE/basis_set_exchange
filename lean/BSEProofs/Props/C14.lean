import BSEProofs.Lemmas.ReadBack
import BSEGen.ReaderPrune
/-! # C14 — the information header can never change or corrupt the payload

On the model of the header assembly in `writers.write_formatted_basis_str` (`BSEModel/Header.lean`; comment markers and
special cases regenerated from `writers/write.py`): the headed text is the bare text with a block of marker-prefixed lines
in front of the payload, a line-splitting reader finds in that block the header's own lines behind the marker, and a reader
that prunes the lines starting with the marker begins with the same list of lines for the headed and the bare text.  The
header is any text `h`: the header builder (textwrap) is not modelled. -/
namespace BSE.Props.C14
open BSE.Header BSE.Gen.Writers

/-- the special cases and the comment prefixing of the source are the ones the model implements -/
theorem assembly_as_modelled :
    fmtSpecial = ["gaussian94lib", "psi4"]
      ∧ headerPrefixing = "header_str = comment_str + comment_str.join(header.splitlines(True))" := ⟨rfl, rfl⟩

theorem commentOf_entry : ∀ e ∈ writerMap, commentOf e.1 = some e.2.1 := by decide +kernel

/-- **formats without a comment syntax receive no header at all** — for every format of the writer map -/
theorem no_comment_no_header (body h : Str) (cart : Bool) :
    ∀ e ∈ writerMap, e.2.1 = none → assemble e.1 body (some h) cart = assemble e.1 body none cart := by
  intro e he hc
  unfold assemble
  rw [commentOf_entry e he, hc]

/-- **the header block is made of marker-prefixed lines only** -/
theorem commentBlock_is_prefixed_lines (c h : Str) (hne : splitlinesKeep h ≠ []) :
    commentBlock c h = ((splitlinesKeep h).map (c ++ ·)).flatten :=
  joinWith_prefixed c _ hne

/-- what `assemble` returns for a format with a comment marker; the tests `fmt == "psi4"` and `fmt == "gaussian94lib"` are left
as tests, so that one statement serves every format -/
theorem assemble_marked (fmt c : String) (hc : commentOf fmt = some (some c)) (body h : Str) (cart : Bool) :
    assemble fmt body none cart
        = some ((if fmt == "psi4" then (if cart then "cartesian".toList else "spherical".toList) ++ ['\n', '\n'] else []) ++ body)
      ∧ assemble fmt body (some h) cart
        = some ((if fmt == "psi4" then (if cart then "cartesian".toList else "spherical".toList) ++ ['\n', '\n'] else [])
            ++ commentBlock c.toList h ++ (if fmt == "gaussian94lib" then [] else ['\n', '\n']) ++ body) := by
  unfold assemble
  rw [hc]
  generalize (fmt == "psi4") = p, (fmt == "gaussian94lib") = g
  cases p <;> cases g <;>
    simp only [Bool.false_eq_true, if_true, if_false, List.append_assoc, List.nil_append, List.append_nil, and_self]

/-- **the headed text is the bare text with the block inserted in front of the payload**: for every
format that has a comment marker `c`, `headed = pre ++ block ++ sep ++ body` and `bare = pre ++ body`
with `pre` the psi4 harmonic line (else empty) and `sep` two newlines (none for gaussian94lib) -/
theorem headed_is_bare_plus_block (body h : Str) (cart : Bool) :
    ∀ e ∈ writerMap, ∀ c, e.2.1 = some c →
      ∃ pre sep : Str, assemble e.1 body none cart = some (pre ++ body)
        ∧ assemble e.1 body (some h) cart = some (pre ++ commentBlock c.toList h ++ sep ++ body)
        ∧ (sep = ['\n', '\n'] ∨ (sep = [] ∧ e.1 = "gaussian94lib"))
        ∧ (pre = [] ∨ (e.1 = "psi4" ∧ (pre = "cartesian".toList ++ ['\n', '\n'] ∨ pre = "spherical".toList ++ ['\n', '\n']))) := by
  intro e he c hc
  obtain ⟨h1, h2⟩ := assemble_marked e.1 c (by rw [commentOf_entry e he, hc]) body h cart
  refine ⟨_, _, h1, h2, ?_, ?_⟩
  · by_cases hg : e.1 = "gaussian94lib"
    · exact Or.inr ⟨if_pos (beq_iff_eq.2 hg), hg⟩
    · exact Or.inl (if_neg (mt beq_iff_eq.1 hg))
  · by_cases hp : e.1 = "psi4"
    · rw [if_pos (beq_iff_eq.2 hp)]
      cases cart
      · exact Or.inr ⟨hp, Or.inr rfl⟩
      · exact Or.inr ⟨hp, Or.inl rfl⟩
    · exact Or.inl (if_neg (mt beq_iff_eq.1 hp))

/-- the comment markers contain no line boundary (so a marker never splits a line) -/
theorem markers_have_no_break : ∀ e ∈ writerMap, ∀ c, e.2.1 = some c → c.toList ≠ [] ∧ c.toList.all (fun x => !isBreak x) = true := by
  decide +kernel

/-- **every line of the header block, as a line-splitting reader sees it, is one of the header's own lines behind the
comment marker** — for every format of the writer map (markers regenerated from `writers/write.py`), every header text
(any Unicode line boundaries included) -/
theorem header_lines_are_marked (e : String × Option String × Option (List String) × String) (he : e ∈ writerMap)
    (c : String) (hc : e.2.1 = some c) (h : Str) (hne : h ≠ []) :
    splitlinesKeep (commentBlock c.toList h) = (splitlinesKeep h).map (c.toList ++ ·)
    ∧ ∀ l ∈ splitlinesKeep (commentBlock c.toList h), c.toList.isPrefixOf l = true := by
  obtain ⟨hcne, hall⟩ := markers_have_no_break e he c hc
  have hnb : NoBreak c.toList := by
    intro x hx
    have := List.all_eq_true.1 hall x hx
    simpa using this
  exact ⟨splitlines_commentBlock c.toList hnb hcne h hne, commentBlock_lines_marked c.toList hnb hcne h hne⟩

example : splitlinesKeep "ab\ncd\r\ne f".toList = ["ab\n".toList, "cd\r\n".toList, "e ".toList, "f".toList] := by decide +kernel
example : commentBlock ['!'] "a\nb\n".toList = "!a\n!b\n".toList := by decide +kernel

/-! ## reading the headed text back

Every reader begins with `prune_lines(text.splitlines(), skipchars)` (`readerLines`); the characters are regenerated from
the reader modules (`BSEGen/ReaderPrune.lean`).  If the comment marker of the format starts with one of them, what the parser
goes on with is the same for the headed and the bare text — hence the same data, or the same error. -/

open BSE.Notation (isPySpace) in
/-- **the reader sees the same lines with and without the header**: for every format of the writer map whose comment marker
starts with a (non-blank) character the reader prunes, every payload `body`, every header text `h` that ends with a line feed
(the header builder ends it with its rule line and `\n`; the harness checks that on every explored text), spherical or cartesian -/
theorem readBack_headed (e : String × Option String × Option (List String) × String) (he : e ∈ writerMap)
    (c : String) (hc : e.2.1 = some c) (c0 : Char) (cs : Str) (hc0 : c.toList = c0 :: cs)
    (skip : List Char) (hskip : skip.contains c0 = true) (hsp : isPySpace c0 = false)
    (body h : Str) (hne : h ≠ []) (hlf : h.getLast? = some '\n') (cart : Bool) :
    (assemble e.1 body (some h) cart).map (readerLines skip) = (assemble e.1 body none cart).map (readerLines skip) := by
  obtain ⟨_, hall⟩ := markers_have_no_break e he c hc
  have hnb : NoBreak c.toList := fun x hx => by simpa using List.all_eq_true.1 hall x hx
  obtain ⟨pre, sep, hb, hh, hsep, hpre⟩ := headed_is_bare_plus_block body h cart e he c hc
  rw [hb, hh]
  refine congrArg some (readerLines_headed skip c.toList c0 cs hc0 hskip hsp hnb h hlf pre sep body ?_ ?_)
  · rcases hpre with rfl | ⟨_, rfl | rfl⟩
    · exact Or.inl rfl
    · exact Or.inr (by decide)
    · exact Or.inr (by decide)
  · rcases hsep with rfl | ⟨rfl, _⟩
    · exact Or.inr rfl
    · exact Or.inl rfl

/-- the formats whose reader prunes the lines behind the writer's comment marker — among them the three whose read-back
must succeed (regenerated from `writers/write.py` and the reader modules) -/
theorem readback_formats :
    (writerMap.filter fun e => match e.2.1, (BSE.Gen.ReaderPrune.readerSkip.find? (·.1 == e.1)).bind (·.2) with
      | some c, some s => (match c.toList with | c0 :: _ => s.toList.contains c0 && !BSE.Notation.isPySpace c0 | [] => false)
      | _, _ => false).map (·.1)
      = ["nwchem", "gaussian94", "molcas", "molcas_library", "demon2k", "gamess_us", "turbomole", "molpro", "libmol", "veloxchem"] := by
  decide +kernel

/-- a comment header and blank lines in front of an NWChem payload: the reader is handed the payload only -/
example : readerLines ['#'] "#----\n# Basis X\n#----\n\n\nBASIS \"ao basis\" SPHERICAL PRINT\nH    S\n".toList
    = ["BASIS \"ao basis\" SPHERICAL PRINT".toList, "H    S".toList] := by decide +kernel

end BSE.Props.C14
