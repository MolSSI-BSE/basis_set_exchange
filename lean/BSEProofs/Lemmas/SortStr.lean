import BSEModel.Index
import BSEProofs.Lemmas.InsSort
/-! `sorted(set(...))` and `sorted(list)` on strings, and `dict(sorted(...))`: instances of `InsSort` -/
namespace BSE.SortStr
open BSE.Compose BSE.Index BSE.InsSort

theorem lt_of_not_lt_ne (x y : String) (h1 : ¬ x < y) (h2 : x ≠ y) : y < x :=
  Decidable.byContradiction fun h => h2 (String.le_antisymm (String.not_lt.1 h) (String.not_lt.1 h1))

theorem insertStr_isInsert : IsInsertDedup (· < ·) insertStr := ⟨fun _ => rfl, fun _ _ _ => rfl⟩

theorem insertKV_isInsert : IsInsert (fun a b : String × J => a.1 < b.1) insertKV := ⟨fun _ => rfl, fun _ _ _ => rfl⟩

/-- `insertDup` asks the question the other way round (`y < x`: go on) -/
theorem insertDup_isInsert : IsInsert (fun x y : String => ¬ y < x) insertDup :=
  ⟨fun _ => rfl, fun x y ys => by by_cases h : y < x <;> simp [insertDup, h]⟩

theorem mem_sortDedupStr (l : List String) (y : String) : y ∈ sortDedupStr l ↔ y ∈ l := insertStr_isInsert.mem_sort l y

theorem sortDedupStr_sorted (l : List String) : (sortDedupStr l).Pairwise (· < ·) :=
  insertStr_isInsert.sort_sorted (fun _ _ _ => String.lt_trans) lt_of_not_lt_ne l

theorem sortDedupStr_nodup (l : List String) : (sortDedupStr l).Nodup :=
  (sortDedupStr_sorted l).imp fun {a b} hab heq => by subst heq; exact String.lt_irrefl a hab

theorem sortDict_perm (d : Dict) : (sortDict d).Perm d := insertKV_isInsert.sort_perm d

theorem sortDup_perm (l : List String) : (l.foldr insertDup []).Perm l := insertDup_isInsert.sort_perm l

theorem sortDup_sorted (l : List String) : (l.foldr insertDup []).Pairwise (fun a b => ¬ b < a) :=
  insertDup_isInsert.sort_sorted (R := fun a b => ¬ b < a) (fun _ _ _ hab hbc => String.not_lt.2 (String.le_trans (String.not_lt.1 hab) (String.not_lt.1 hbc)))
    (fun _ _ h => h) (fun _ _ h => String.lt_asymm (Decidable.not_not.1 h)) l

end BSE.SortStr
