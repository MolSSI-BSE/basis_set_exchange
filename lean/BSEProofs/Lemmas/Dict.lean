import BSEModel.Json
/-! Insertion-ordered dictionaries: what `get?`, `has`, `keys` see after `set`, `update`, `erase`, `++`.
Proofs elsewhere go through these and do not unfold the operations.  Four of them are `simp` lemmas wherever this file is
imported: `get?_nil`, `get?_cons`, `has_nil`, `has_cons`.  With them a bare `simp` reads a key off a dictionary that is
written out entry by entry (one `if kv.1 = k` per entry): the `by simp` closers about the index records in `Lemmas/IndexSpec`
and `Props/C11` and about the planned files in `Props/C17` rest on that. -/
namespace BSE.Dict

@[simp] theorem get?_nil (k : String) : get? [] k = none := rfl

@[simp] theorem get?_cons (kv : String × J) (d : Dict) (k : String) :
    get? (kv :: d) k = if kv.1 = k then some kv.2 else get? d k := by
  by_cases h : kv.1 = k <;> simp [get?, h]

@[simp] theorem has_nil (k : String) : has [] k = false := rfl

@[simp] theorem has_cons (kv : String × J) (d : Dict) (k : String) : has (kv :: d) k = (kv.1 == k || has d k) := rfl

theorem has_eq_isSome (d : Dict) (k : String) : has d k = (get? d k).isSome := by
  induction d with
  | nil => rfl
  | cons x xs ih => by_cases h : x.1 = k <;> simp [h, ih]

theorem get?_eq_none (d : Dict) (k : String) : get? d k = none ↔ has d k = false := by
  rw [has_eq_isSome, Option.isSome_eq_false_iff, Option.isNone_iff_eq_none]

theorem has_iff_mem_keys (d : Dict) (k : String) : has d k = true ↔ k ∈ keys d := by
  simp [has, keys]

theorem has_filter_keys (q : String → Bool) (d : Dict) (k : String) :
    has (d.filter fun kv => q kv.1) k = (q k && has d k) := by
  induction d with
  | nil => simp
  | cons x xs ih =>
    by_cases hx : x.1 = k
    · cases hq : q k <;> simp [hx, hq, ih]
    · have hb : (x.1 == k) = false := by simpa using hx
      cases hq : q x.1 <;> simp [hb, hq, ih]

theorem get?_append (d e : Dict) (k : String) : get? (d ++ e) k = (get? d k).or (get? e k) := by
  simp [get?, List.find?_append, Option.map_or]

/-- `if k not in d: d[k] = v` -/
theorem get?_append_absent (d : Dict) (k : String) (v : J) (p : String) :
    get? (if has d k then d else d ++ [(k, v)]) p = (get? d p).or (get? [(k, v)] p) := by
  split
  · rename_i h
    by_cases hk : k = p
    · rw [has_eq_isSome, hk] at h
      obtain ⟨x, hx⟩ := Option.isSome_iff_exists.1 h
      simp [hx]
    · simp [hk]
  · rw [get?_append]

theorem has_append (d e : Dict) (k : String) : has (d ++ e) k = (has d k || has e k) := List.any_append

theorem get?_set (d : Dict) (k k' : String) (v : J) : get? (set d k v) k' = if k = k' then some v else get? d k' := by
  induction d with
  | nil => simp [set]
  | cons x xs ih =>
    obtain ⟨k0, v0⟩ := x
    by_cases h : k0 = k
    · subst h; by_cases h' : k0 = k' <;> simp [set, h']
    · by_cases h' : k0 = k'
      · subst h'; simp [set, h, Ne.symm h]
      · simp [set, h, h', ih]

theorem get?_set_same (d : Dict) (k : String) (v : J) : get? (set d k v) k = some v := by
  simp [get?_set]

theorem get?_set_other (d : Dict) (k k' : String) (v : J) (hne : k ≠ k') : get? (set d k v) k' = get? d k' := by
  simp [get?_set, hne]

theorem keys_append (d d' : Dict) : keys (d ++ d') = keys d ++ keys d' := List.map_append

theorem keys_set (d : Dict) (k : String) (v : J) : keys (set d k v) = if has d k then keys d else keys d ++ [k] := by
  induction d with
  | nil => simp [set, keys]
  | cons x xs ih =>
    by_cases h : x.1 = k
    · simp [set, keys, h]
    · -- the head stays and is not `k`; the rest is the statement for the tail
      have ih' : (set xs k v).map (·.1) = if has xs k then xs.map (·.1) else xs.map (·.1) ++ [k] := ih
      cases hx : has xs k <;> simp [set, keys, h, hx, ih']

theorem keys_set_of_has (d : Dict) (k : String) (v : J) (h : has d k = true) : keys (set d k v) = keys d := by
  simp [keys_set, h]

theorem keys_set_of_not_has (d : Dict) (k : String) (v : J) (h : has d k = false) : keys (set d k v) = keys d ++ [k] := by
  simp [keys_set, h]

theorem update_append (d o o' : Dict) : update d (o ++ o') = update (update d o) o' := List.foldl_append ..

theorem update_cons (d : Dict) (kv : String × J) (o : Dict) : update d (kv :: o) = update (set d kv.1 kv.2) o := rfl

theorem get?_update_of_not_has (d o : Dict) (k : String) (h : has o k = false) : get? (update d o) k = get? d k := by
  induction o generalizing d with
  | nil => rfl
  | cons kv rest ih =>
    simp only [has_cons, Bool.or_eq_false_iff, beq_eq_false_iff_ne] at h
    rw [update_cons, ih _ h.2, get?_set_other _ _ _ _ h.1]

theorem erase_set (d : Dict) (k : String) (v : J) : erase (set d k v) k = erase d k := by
  induction d with
  | nil => simp [set, erase]
  | cons x xs ih =>
    unfold erase at ih
    by_cases h : x.1 = k <;> simp [set, erase, h, ih]

theorem map_set_of_get? (g : J → J) (d : Dict) (k : String) (v0 v : J) (h0 : get? d k = some v0) (hg : g v = g v0) :
    (set d k v).map (fun kv => (kv.1, g kv.2)) = d.map (fun kv => (kv.1, g kv.2)) := by
  induction d with
  | nil => simp at h0
  | cons x xs ih =>
    by_cases h : x.1 = k
    · -- `k` is at the head: `v` takes the place of `v0`, and `g` does not tell them apart
      have hv : x.2 = v0 := by simpa [h] using h0
      simp [set, h, hg, hv]
    · have h0' : get? xs k = some v0 := by simpa [h] using h0
      simp [set, h, ih h0']

end BSE.Dict
