import BSEModel.Augment
import BSEGen.Manip
/-! # C12 — augmentation only adds, calendarisation only removes, by the documented rules

Over `Rat`, on the exact-arithmetic model of `manip.geometric_augmentation` and `manip.truhlar_calendarize`
(`BSEModel/Augment.lean`): where the exponents `x·(x/y)^i` lie, and which momenta a month strips.  The floating-point
evaluation and the `'{:.6e}'` printing of the new exponents are outside the model. -/
namespace BSE.Props.C12
open BSE.Aug

theorem powR_pos (b : Rat) (hb : 0 < b) : ∀ n, 0 < powR b n
  | 0 => show (0 : Rat) < 1 by decide
  | n + 1 => Rat.mul_pos hb (powR_pos b hb n)

theorem powR_lt_one (b : Rat) (hb0 : 0 < b) (hb1 : b < 1) : ∀ n, powR b (n + 1) < 1
  | 0 => by simpa [powR] using hb1
  | n + 1 => by
    -- b · bⁿ⁺¹ < b · 1 = b < 1
    have h : b * powR b (n + 1) < b * 1 := Rat.mul_lt_mul_of_pos_left (powR_lt_one b hb0 hb1 n) hb0
    rw [Rat.mul_one] at h
    exact Std.lt_trans h hb1

theorem one_lt_powR (b : Rat) (hb1 : 1 < b) : ∀ n, 1 < powR b (n + 1)
  | 0 => by simpa [powR] using hb1
  | n + 1 => by
    -- 1 < b = b · 1 < b · bⁿ⁺¹
    have hb0 : 0 < b := Std.lt_trans (by decide) hb1
    have h : b * 1 < b * powR b (n + 1) := Rat.mul_lt_mul_of_pos_left (one_lt_powR b hb1 n) hb0
    rw [Rat.mul_one] at h
    exact Std.lt_trans hb1 h

/-- **diffuse augmentation: every new exponent x·(x/y)^i lies strictly below the smallest original
exponent x (and is positive)**, for the outermost x and the next one y > x -/
theorem diffuse_strictly_outside (x y : Rat) (hx : 0 < x) (hxy : x < y) (i : Nat) :
    0 < x * powR (x / y) (i + 1) ∧ x * powR (x / y) (i + 1) < x := by
  have hy : 0 < y := Std.lt_trans hx hxy
  have h0 : 0 < x / y := (Rat.lt_div_iff hy).2 (by rwa [Rat.zero_mul])
  have h1 : x / y < 1 := (Rat.div_lt_iff hy).2 (by rwa [Rat.one_mul])
  exact ⟨Rat.mul_pos hx (powR_pos _ h0 _), by simpa [Rat.mul_one] using Rat.mul_lt_mul_of_pos_left (powR_lt_one _ h0 h1 i) hx⟩

/-- **steep augmentation: every new exponent lies strictly above the largest original exponent** -/
theorem steep_strictly_outside (x y : Rat) (hy : 0 < y) (hyx : y < x) (i : Nat) :
    x < x * powR (x / y) (i + 1) := by
  have h1 : 1 < x / y := (Rat.lt_div_iff hy).2 (by rwa [Rat.one_mul])
  simpa [Rat.mul_one] using Rat.mul_lt_mul_of_pos_left (one_lt_powR _ h1 i) (Std.lt_trans hy hyx)

/-- successive new exponents keep the ratio x/y (even-tempered) -/
theorem even_tempered (x y : Rat) (i : Nat) :
    x * powR (x / y) (i + 2) = (x / y) * (x * powR (x / y) (i + 1)) := by
  rw [show powR (x / y) (i + 2) = x / y * powR (x / y) (i + 1) from rfl, ← Rat.mul_assoc, ← Rat.mul_assoc, Rat.mul_comm x]

variable {ν : Type}

theorem newFrom_spec (x y : Rat) (bf : Bool) (nadd : Nat) (l : List Rat) (h : newFrom x y bf nadd = some l) :
    x ≠ y ∧ ((bf = false ∧ l = []) ∨ (bf = true ∧ l = (List.range nadd).map fun i => x * powR (x / y) (i + 1))) := by
  unfold newFrom at h
  by_cases hxy : x = y
  · rw [if_pos hxy] at h
    cases h
  · rw [if_neg hxy] at h
    cases bf with
    | false => exact ⟨hxy, Or.inl ⟨rfl, (Option.some.inj h).symm⟩⟩
    | true => exact ⟨hxy, Or.inr ⟨rfl, (Option.some.inj h).symm⟩⟩

/-- **per shell exactly `n` functions or none**, given by the formula from the outermost exponent
`x` and the next one `y` — and none unless both are free primitives; equal outer exponents raise -/
theorem newExponents_spec (val : ν → Rat) (nadd : Nat) (steep : Bool) (sh : Shell ν) (l : List Rat)
    (h : newExponents val nadd steep sh = some l) :
    l = [] ∨ (l.length = nadd ∧ ∃ x y : Rat, x ≠ y ∧ l = (List.range nadd).map fun i => x * powR (x / y) (i + 1)) := by
  simp only [newExponents] at h
  cases ho : outerPair (sh.exps.map val) steep with
  | none =>
    -- fewer than two exponents: nothing is added
    rw [ho] at h
    exact Or.inl (Option.some.inj h).symm
  | some rn =>
    rw [ho] at h
    obtain ⟨hxy, ⟨-, rfl⟩ | ⟨-, rfl⟩⟩ := newFrom_spec _ _ _ _ _ h
    · exact Or.inl rfl
    · exact Or.inr ⟨by simp, _, _, hxy, rfl⟩

/-- the added function has unit coefficient: the literal of the code is a one (read from the source) -/
theorem augOne_is_one : numVal BSE.Gen.Manip.augOne = 1 := by decide +kernel

/-- `geometric_augmentation` merges by momentum first (`make_general`, fused shells split), on a copy -/
theorem augment_calls : BSE.Gen.Manip.augmentCalls = [⟨.makeGeneral false, true⟩] := rfl

/-- momenta stripped for `n` removals from an element whose highest momentum is `m` -/
def target (m n : Nat) : List Nat := (List.range n).filterMap fun k => if k ≤ m then some (m - k) else none

/-- the k highest momenta are stripped: `l` is stripped iff `m - k < l ≤ m` -/
theorem mem_target (m n l : Nat) : l ∈ target m n ↔ l ≤ m ∧ m < l + n := by
  unfold target
  simp only [List.mem_filterMap, List.mem_range]
  constructor
  · rintro ⟨k, hk, hl⟩
    split at hl
    · cases hl; omega
    · cases hl
  · rintro ⟨h1, h2⟩
    exact ⟨m - l, by omega, by simp [show m - l ≤ m by omega]; omega⟩

/-- **successive months form a chain**: what month k strips, month k+1 strips too -/
theorem target_chain (m n : Nat) (l : Nat) (h : l ∈ target m n) : l ∈ target m (n + 1) :=
  (mem_target m (n + 1) l).2 ⟨((mem_target m n l).1 h).1, by have := ((mem_target m n l).1 h).2; omega⟩

/-- **removing a primitive only removes**: the exponents left are the old ones minus position `i`,
and every coefficient column left is an old column minus that position -/
theorem removePrimitive_only_removes (val : ν → Rat) (sh : Shell ν) (i : Nat) :
    (removePrimitive val sh i).exps = sh.exps.eraseIdx i
      ∧ ∀ c ∈ (removePrimitive val sh i).coefs, ∃ c0 ∈ sh.coefs, c = c0.eraseIdx i := by
  refine ⟨rfl, ?_⟩
  intro c hc
  simp only [removePrimitive, List.mem_filter, List.mem_map] at hc
  obtain ⟨⟨c0, hc0, rfl⟩, _⟩ := hc
  exact ⟨c0, hc0, rfl⟩

/-- the month table of the code (read from the source): jul = offset 0 … jan = offset 6 -/
theorem months_table : BSE.Gen.Manip.months = ["jul", "jun", "may", "apr", "mar", "feb", "jan"] := rfl

example : (0 : Rat) < 1/10 * powR ((1/10) / (3/10)) 2 ∧ (1/10 : Rat) * powR ((1/10) / (3/10)) 2 < 1/10 :=
  diffuse_strictly_outside (1/10) (3/10) (by decide +kernel) (by decide +kernel) 1
example : target 3 2 = [3, 2] ∧ target 1 5 = [1, 0] := by decide

end BSE.Props.C12
