import BSEModel.Shell
/-! `manip.py: prune_basis` and `uncontract_general` on one element's shell list, and `funcSet`, the set of
contracted functions (momentum, `colFn`) that the operations of `manip.py` are to keep. -/
namespace BSE
variable {ν : Type}

instance [DecidableEq ν] : DecidableEq (Shell ν) := by
  intro a b
  cases a; cases b
  simp only [Shell.mk.injEq]
  exact inferInstance

/-- `for sh in shells: if sh not in out: out.append(sh)` -/
def dedup [DecidableEq ν] : List (Shell ν) → List (Shell ν) → List (Shell ν)
  | acc, [] => acc
  | acc, sh :: rest => if sh ∈ acc then dedup acc rest else dedup (acc ++ [sh]) rest

/-- prune_basis on one element's shell list -/
def pruneShells [DecidableEq ν] (val : ν → Rat) (shells : List (Shell ν)) : Except String (List (Shell ν)) :=
  match mapE (pruneShell val) shells with
  | .error e => .error e
  | .ok ss => .ok (dedup [] ss)

/-- uncontract_general on one element's shell list (before the final prune) -/
def uncontractGeneralCore (shells : List (Shell ν)) : List (Shell ν) :=
  shells.flatMap fun sh =>
    if sh.coefs.length = 1 ∨ sh.am.length > 1 then [sh]
    else if sh.am.length = 1 then sh.coefs.map (fun c => { sh with coefs := [c] })
    else []

theorem mem_uncontractGeneralCore (shells : List (Shell ν)) (s : Shell ν) :
    s ∈ uncontractGeneralCore shells ↔ ∃ sh ∈ shells,
      ((sh.coefs.length = 1 ∨ sh.am.length > 1) ∧ s = sh) ∨
      (¬ (sh.coefs.length = 1 ∨ sh.am.length > 1) ∧ sh.am.length = 1 ∧ ∃ c ∈ sh.coefs, s = { sh with coefs := [c] }) := by
  unfold uncontractGeneralCore
  rw [List.mem_flatMap]
  refine exists_congr fun sh => and_congr_right fun _ => ?_
  by_cases hc : sh.coefs.length = 1 ∨ sh.am.length > 1
  · simp [hc]
  · simp only [hc, if_false, false_and, false_or, not_false_eq_true, true_and]
    by_cases h1 : sh.am.length = 1 <;> simp [h1, eq_comm]

def uncontractGeneral [DecidableEq ν] (val : ν → Rat) (shells : List (Shell ν)) :=
  pruneShells val (uncontractGeneralCore shells)

abbrev Func := Nat × (Rat → Rat)

def Shell.funcs (val : ν → Rat) (sh : Shell ν) : List Func :=
  if sh.am.length > 1 then List.zipWith (fun a c => (a, colFn val sh.exps c)) sh.am sh.coefs
  else sh.coefs.map (fun c => (sh.am.headD 0, colFn val sh.exps c))

def funcSet (val : ν → Rat) (shells : List (Shell ν)) (f : Func) : Prop :=
  ∃ sh ∈ shells, f ∈ sh.funcs val

/-- (momentum, column) pairs of a shell, as `Shell.funcs` reads them -/
def Shell.amCols (sh : Shell ν) : List (Nat × List ν) :=
  if sh.am.length > 1 then sh.am.zip sh.coefs else sh.coefs.map (fun c => (sh.am.headD 0, c))

/-! `Shell.funcs` in closed form: over the (momentum, column) pairs (`funcs_eq`; `funcs_eq_map` when the pairs are given),
and over the column functions alone (`funcs_eq_colFns`, from which `funcs_congr` and `funcs_single` read off what an operation
that keeps the column functions keeps). -/

theorem Shell.funcs_eq (val : ν → Rat) (sh : Shell ν) :
    sh.funcs val = sh.amCols.map (fun p => (p.1, colFn val sh.exps p.2)) := by
  unfold Shell.funcs Shell.amCols
  split
  · rw [List.map_zip_eq_zipWith]; rfl
  · simp [List.map_map, Function.comp]

theorem Shell.funcs_eq_map (val : ν → Rat) (s : Shell ν) (ps : List (Nat × List ν)) (ha : s.am = ps.map (·.1))
    (hc : s.coefs = ps.map (·.2)) : s.funcs val = ps.map fun p => (p.1, colFn val s.exps p.2) := by
  rw [Shell.funcs_eq]
  congr 1
  unfold Shell.amCols
  rw [ha, hc]
  match ps with
  | [] => rfl
  | [_] => rfl
  | _ :: _ :: _ => simpa using (List.zip_of_prod rfl rfl).symm

theorem Shell.funcs_eq_colFns (val : ν → Rat) (s : Shell ν) :
    s.funcs val = if s.am.length > 1 then List.zipWith Prod.mk s.am (s.coefs.map (colFn val s.exps))
      else (s.coefs.map (colFn val s.exps)).map (Prod.mk (s.am.headD 0)) := by
  unfold Shell.funcs
  split <;> simp [List.zipWith_map_right, Function.comp_def]

theorem Shell.funcs_congr (val : ν → Rat) {sh sh' : Shell ν} (ham : sh'.am = sh.am)
    (h : sh'.coefs.map (colFn val sh'.exps) = sh.coefs.map (colFn val sh.exps)) : sh'.funcs val = sh.funcs val := by
  rw [Shell.funcs_eq_colFns, Shell.funcs_eq_colFns, ham, h]

theorem Shell.funcs_single (val : ν → Rat) {s : Shell ν} {a : Nat} (h : s.am = [a]) :
    s.funcs val = (s.coefs.map (colFn val s.exps)).map (Prod.mk a) := by
  rw [Shell.funcs_eq_colFns, h]
  rfl

theorem funcSet_iff (val : ν → Rat) (shells : List (Shell ν)) (f : Func) :
    funcSet val shells f ↔ f ∈ shells.flatMap (·.funcs val) := List.mem_flatMap.symm

theorem uncontractGeneralCore_funcs (val : ν → Rat) (shells : List (Shell ν)) (hwf : ∀ sh ∈ shells, sh.am ≠ []) :
    (uncontractGeneralCore shells).flatMap (·.funcs val) = shells.flatMap (·.funcs val) := by
  unfold uncontractGeneralCore
  rw [List.flatMap_assoc, List.flatMap_def, List.flatMap_def]
  refine congrArg _ (List.map_congr_left fun sh hsh => ?_)
  split
  · exact List.flatMap_singleton _ _
  · rename_i hc
    -- am empty is excluded by the schema (minItems 1)
    have h1 : sh.am.length = 1 := by
      have := List.length_pos_iff.2 (hwf sh hsh)
      omega
    rw [if_pos h1, List.flatMap_map]
    simp [Shell.funcs, h1, ← List.map_eq_flatMap]

theorem funcSet_uncontractGeneralCore (val : ν → Rat) (shells : List (Shell ν)) (f : Func)
    (hwf : ∀ sh ∈ shells, sh.am ≠ []) :
    funcSet val (uncontractGeneralCore shells) f ↔ funcSet val shells f := by
  rw [funcSet_iff, funcSet_iff, uncontractGeneralCore_funcs val shells hwf]

end BSE
