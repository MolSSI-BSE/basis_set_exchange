import BSEModel.Printing
import BSEGen.Writers
import BSEProofs.Lemmas.NwchemEcp
import BSEModel.G94Ecp
import BSEModel.Turbomole
/-! # C04 — every writer emits every number of the basis, unrounded

What is proved: (i) `write_matrix` prints every cell verbatim, separated by blanks, for cells that are non-empty and
hold no blank (`rowLine_tokens`, `WordOk`); (ii) a function type the format cannot express closes the gate, over the
regenerated writer map (`gate_rejects`); (iii) every writer's
normalisation pipeline uses only operations that keep the function set (C02) or its span (C07) (`pipelines_preserve`);
(iv) the NWChem and Gaussian94 writers and the Turbomole electron section, modelled at token level, print every primitive
and every ECP term.  The printing loops of the other formats are not modelled. -/
namespace BSE.Props.C04
open BSE.Printing BSE.Gen.Writers

theorem tokensAux_spaces (n : Nat) (s : Str) : tokensAux (List.replicate n ' ' ++ s) [] = tokensAux s [] := by
  induction n with
  | zero => simp
  | succ k ih => simp [List.replicate_succ, tokensAux, ih]

theorem tokensAux_word (w s cur : Str) (hw : ∀ c ∈ w, c ≠ ' ') :
    tokensAux (w ++ s) cur = tokensAux s (w.reverse ++ cur) := by
  induction w generalizing cur with
  | nil => simp
  | cons c cs ih =>
    have hc : c ≠ ' ' := hw c (by simp)
    simp only [List.cons_append, tokensAux, hc, if_false]
    rw [ih (c :: cur) (fun x hx => hw x (by simp [hx]))]
    simp

theorem tokensAux_single (w : Str) (hne : w ≠ []) (hw : ∀ c ∈ w, c ≠ ' ') : tokensAux w [] = [w] := by
  simpa [tokensAux, hne] using tokensAux_word w [] [] hw

/-- a well-formed cell text: non-empty, no blank inside -/
def WordOk (w : Str) : Prop := w ≠ [] ∧ ∀ c ∈ w, c ≠ ' '

theorem tokensAux_blank (l s cur : Str) : tokensAux (l ++ ' ' :: s) cur = tokensAux l cur ++ tokensAux s [] := by
  induction l generalizing cur with
  | nil => by_cases h : cur.isEmpty <;> simp [tokensAux, h]
  | cons c cs ih => by_cases hc : c = ' ' <;> by_cases h : cur.isEmpty <;> simp [tokensAux, hc, h, ih]

/-- **one printed row, read back as blank-separated tokens, is exactly the list of its cells** —
whatever the padding: no cell is dropped, glued to its neighbour or changed -/
theorem rowLine_tokens (cells : List (Nat × Str)) (line : Str) (hc : ∀ p ∈ cells, WordOk p.2) :
    tokens (rowLine cells line) = tokens line ++ cells.map (·.2) := by
  induction cells generalizing line with
  | nil => simp [rowLine]
  | cons p rest ih =>
    obtain ⟨pad, txt⟩ := p
    have hw : WordOk txt := hc (pad, txt) (by simp)
    have hword : ∀ k, tokensAux (List.replicate k ' ' ++ txt) [] = [txt] := fun k => by
      rw [tokensAux_spaces, tokensAux_single txt hw.1 hw.2]
    rw [rowLine, ih _ (fun q hq => hc q (by simp [hq]))]
    -- the cell goes after the line: at the start of an empty line, else behind at least one blank
    by_cases hl : line = []
    · simp [hl, tokens, hword, tokensAux]
    · obtain ⟨k, hk⟩ : ∃ k, max (pad - line.length) 1 = k + 1 := ⟨max (pad - line.length) 1 - 1, by omega⟩
      simp [hl, hk, tokens, List.replicate_succ, tokensAux_blank, hword]

theorem writeMatrix_row_tokens (cells : List (Nat × Str)) (hc : ∀ p ∈ cells, WordOk p.2) :
    tokens (rowLine cells []) = cells.map (·.2) := by
  have := rowLine_tokens cells [] hc
  simpa [tokens, tokensAux] using this

/-- the exponent-marker conversion touches nothing but `e`/`E` -/
theorem convExp_only_marker (s : Str) (i : Nat) (c : Char) (h : (convExp true s)[i]? = some c) :
    ∃ c0, s[i]? = some c0 ∧ (c = c0 ∨ ((c0 = 'e' ∨ c0 = 'E') ∧ c = 'D')) := by
  simp only [convExp, if_true, List.getElem?_map] at h
  cases hs : s[i]? with
  | none => simp [hs] at h
  | some c0 =>
    simp only [hs, Option.map_some, Option.some.injEq] at h
    refine ⟨c0, rfl, ?_⟩
    by_cases he : c0 = 'e' ∨ c0 = 'E'
    · right; exact ⟨he, by simp [he] at h; exact h.symm⟩
    · left; simp [he] at h; exact h.symm

theorem convExp_false (s : Str) : convExp false s = s := by simp [convExp]

/-- `ftypes <= writer['valid']` -/
def gateOk (valid : Option (List String)) (ftypes : List String) : Bool :=
  match valid with
  | none => true
  | some v => ftypes.all (v.contains ·)

/-- a type the format cannot express closes the gate (RuntimeError instead of silent omission) -/
theorem gate_rejects (v : List String) (ftypes : List String) (t : String) (ht : t ∈ ftypes) (hv : t ∉ v) :
    gateOk (some v) ftypes = false := by
  simp only [gateOk]
  apply List.all_eq_false.2
  exact ⟨t, ht, by simpa using hv⟩

/-- every format of the source has a gate entry; the only gate-less ones are the library's own dumps -/
theorem gateless_formats : (writerMap.filter (fun e => e.2.2.1.isNone)).map (·.1) = ["bsedebug", "json"] := by decide

/-- formats that cannot express ECPs / cartesian functions say so in their gate -/
theorem restricted_gates :
    (writerMap.filter (fun e => match e.2.2.1 with | some v => !v.contains "scalar_ecp" | none => false)).map (·.1)
      = ["fhiaims", "veloxchem"] := rfl

/-- re-contraction steps proved to preserve the contracted function set (C02) or its span (C07) -/
def preserving : Op → Bool
  | .uncontractGeneral | .uncontractSpdf _ | .makeGeneral _ | .sortBasis | .pruneBasis => true
  | .optimizeGeneral => true      -- span-preserving (C07); used by veloxchem only
  | _ => false

theorem pipelines_preserve : ∀ p ∈ pipelines, ∀ st ∈ p.2, preserving st.op = true := by decide

theorem optimize_only_veloxchem : (pipelines.filter (fun p => p.2.any (fun st => st.op == .optimizeGeneral))).map (·.1) = ["veloxchem"] := by
  decide

/-- every format of the writer map has a pipeline entry (possibly empty) -/
theorem every_format_has_pipeline : writerMap.map (·.1) = pipelines.map (·.1) := rfl

example : tokens "  1.0   -2.5D+00 3".toList = ["1.0".toList, "-2.5D+00".toList, "3".toList] := by decide +kernel
example : WordOk "1.0".toList := ⟨by decide, by decide⟩

/-! Each writer lays its text out in layers (section, element, shell or potential, row): one membership lemma per layer,
and the coverage theorems compose them. -/
section layers
open BSE.Nwchem BSE.G94 BSE.Turbomole
variable {ν : Type}

theorem nwchem_row_mem_shellLines (T : Tables ν) (z : Nat) (sh : EShell ν) {r : List ν}
    (hr : r ∈ zipStar (sh.exps :: sh.coefs)) : Line.row r ∈ Nwchem.shellLines T z sh :=
  List.mem_cons_of_mem _ (List.mem_map_of_mem hr)      -- behind the `sym AM` line

theorem nwchem_shellLines_sub (T : Tables ν) (harm : Nwchem.Str) {els : List (Nat × List (EShell ν))}
    {e : Nat × List (EShell ν)} (he : e ∈ els) {sh : EShell ν} (hsh : sh ∈ e.2) {l : Line ν}
    (hl : l ∈ Nwchem.shellLines T e.1 sh) : l ∈ electronLines T harm els := by
  have : l ∈ els.flatMap fun e => e.2.flatMap (Nwchem.shellLines T e.1) :=
    List.mem_flatMap_of_mem he (List.mem_flatMap_of_mem hsh hl)
  exact List.mem_append_left _ (List.mem_cons_of_mem _ this)      -- between the `BASIS` line and `END`

theorem nwchem_term_mem_potLines (T : EcpTables ν) (z maxAm : Nat) {p : EPot ν} {t : ν × ν × ν}
    (ht : t ∈ p.terms) : Line.row [t.1, t.2.1, t.2.2] ∈ potLines T z maxAm p :=
  List.mem_cons_of_mem _ (List.mem_map_of_mem ht)      -- behind the `sym AM` line

/-- the potentials are written in `writeOrder`, a permutation of the element's list -/
theorem nwchem_potLines_sub (T : EcpTables ν) {e : Nat × Nwchem.Str × List (EPot ν)} {p : EPot ν}
    (hp : p ∈ e.2.2) {l : Line ν} (hl : l ∈ potLines T e.1 ((e.2.2.map (·.am)).foldl max 0) p) :
    l ∈ ecpElementLines T e :=
  List.mem_cons_of_mem _ (List.mem_flatMap_of_mem ((mem_writeOrder e.2.2 p).2 hp) hl)      -- behind the `nelec` line

theorem nwchem_ecpElementLines_sub (T : EcpTables ν) {els : List (Nat × Nwchem.Str × List (EPot ν))}
    {e : Nat × Nwchem.Str × List (EPot ν)} (he : e ∈ els) {l : Line ν} (hl : l ∈ ecpElementLines T e) :
    l ∈ ecpLines T els :=
  List.mem_append_left _ (List.mem_cons_of_mem _ (List.mem_flatMap_of_mem he hl))      -- between `ECP` and `END`

theorem g94_row_mem_shellLines (T : GTables ν) (sh : EShell ν) {r : List ν}
    (hr : r ∈ zipStar (sh.exps :: sh.coefs)) : GLine.row r ∈ G94.shellLines T sh :=
  List.mem_cons_of_mem _ (List.mem_map_of_mem hr)      -- behind the `AM n 1.00` line

theorem g94_shellLines_sub (T : GTables ν) (z : Nat) {shells : List (EShell ν)} {sh : EShell ν}
    (hsh : sh ∈ shells) {l : GLine ν} (hl : l ∈ G94.shellLines T sh) : l ∈ electronBlock T z shells :=
  List.mem_append_left _ (List.mem_cons_of_mem _ (List.mem_flatMap_of_mem hsh hl))      -- between `sym 0` and `****`

theorem g94_term_mem_potLinesE (T : ETables ν) (maxAm : Nat) {p : EPot ν} {t : ν × ν × ν}
    (ht : t ∈ p.terms) : ELine.other [t.1, t.2.1, t.2.2] ∈ potLinesE T maxAm p :=
  List.mem_cons_of_mem _ (List.mem_cons_of_mem _ (List.mem_map_of_mem ht))      -- behind the title and the count

theorem g94_potLinesE_sub (T : ETables ν) (z : Nat) (nelec : ν) {pots : List (EPot ν)} {p : EPot ν}
    (hp : p ∈ pots) {l : ELine ν} (hl : l ∈ potLinesE T ((pots.map (·.am)).foldl max 0) p) :
    l ∈ G94.ecpBlock T z nelec pots :=
  -- behind the `SYM 0` and `SYM-ECP` lines
  List.mem_cons_of_mem _ (List.mem_cons_of_mem _ (List.mem_flatMap_of_mem ((mem_writeOrder pots p).2 hp) hl))

theorem turbomole_row_mem_shellLinesT (T : TTables ν) (sh : EShell ν) {r : List ν}
    (hr : r ∈ zipStar (sh.exps :: sh.coefs)) : TLine.row r ∈ shellLinesT T sh :=
  List.mem_cons_of_mem _ (List.mem_map_of_mem hr)      -- behind the `n AM` line

theorem turbomole_shellLinesT_sub (T : TTables ν) (name : Nwchem.Str) {e : Nat × List (EShell ν)}
    {sh : EShell ν} (hsh : sh ∈ e.2) {l : TLine ν} (hl : l ∈ shellLinesT T sh) : l ∈ elementLinesT T name e :=
  -- behind the element line and `*`, before the closing `*`
  List.mem_append_left _ (List.mem_cons_of_mem _ (List.mem_cons_of_mem _ (List.mem_flatMap_of_mem hsh hl)))

theorem turbomole_elementLinesT_sub (T : TTables ν) (name : Nwchem.Str) {els : List (Nat × List (EShell ν))}
    {e : Nat × List (EShell ν)} (he : e ∈ els) {l : TLine ν} (hl : l ∈ elementLinesT T name e) :
    l ∈ electronLinesT T name els :=
  List.mem_cons_of_mem _ (List.mem_flatMap_of_mem he hl)      -- behind the opening `*`

end layers

open BSE.Nwchem in
/-- **NWChem electron section covers the basis**: for every element, every shell and every primitive `i` there is a
row line holding exactly the exponent `i` followed by coefficient `i` of every contraction, in order -/
theorem nwchem_writer_covers_shells {ν : Type} (T : Tables ν) (harm : Nwchem.Str) (els : List (Nat × List (EShell ν)))
    (e : Nat × List (EShell ν)) (he : e ∈ els) (sh : EShell ν) (hsh : sh ∈ e.2)
    (hr : Rect sh.exps.length sh.coefs) (i : Nat) (hi : i < sh.exps.length) :
    Line.row (sh.exps[i] :: sh.coefs.filterMap (·[i]?)) ∈ electronLines T harm els :=
  nwchem_shellLines_sub T harm he hsh (nwchem_row_mem_shellLines T e.1 sh (row_mem_zipStar sh.exps sh.coefs hr i hi))

open BSE.Nwchem in
/-- **NWChem ECP section covers the ECP**: every term `(r exponent, gaussian exponent, coefficient)` of every potential
of every element is a row line, and the electron count is on the element's `nelec` line -/
theorem nwchem_writer_covers_ecp {ν : Type} (T : EcpTables ν) (els : List (Nat × Nwchem.Str × List (EPot ν)))
    (e : Nat × Nwchem.Str × List (EPot ν)) (he : e ∈ els) :
    Line.head [T.symOf e.1, "nelec".toList, e.2.1] ∈ ecpLines T els
    ∧ ∀ p ∈ e.2.2, ∀ t ∈ p.terms, Line.row [t.1, t.2.1, t.2.2] ∈ ecpLines T els := by
  constructor
  · exact nwchem_ecpElementLines_sub T he List.mem_cons_self
  · intro p hp t ht
    exact nwchem_ecpElementLines_sub T he (nwchem_potLines_sub T hp (nwchem_term_mem_potLines T _ _ ht))

open BSE.G94 BSE.Nwchem in
/-- **Gaussian94 electron block covers the element**: the element's symbol line comes first, the block ends with `****`, and for
every shell and every primitive `i` there is a row holding exactly exponent `i` followed by coefficient `i` of every contraction -/
theorem g94_writer_covers_shells {ν : Type} (T : GTables ν) (z : Nat) (shells : List (EShell ν))
    (sh : EShell ν) (hsh : sh ∈ shells) (hr : Rect sh.exps.length sh.coefs) (i : Nat) (hi : i < sh.exps.length) :
    GLine.row (sh.exps[i] :: sh.coefs.filterMap (·[i]?)) ∈ electronBlock T z shells
    ∧ GLine.head [T.amStr sh.am, T.natStr sh.exps.length, "1.00".toList] ∈ electronBlock T z shells := by
  constructor
  · exact g94_shellLines_sub T z hsh (g94_row_mem_shellLines T sh (row_mem_zipStar sh.exps sh.coefs hr i hi))
  · exact g94_shellLines_sub T z hsh List.mem_cons_self

open BSE.G94 BSE.Nwchem in
/-- **Gaussian94 ECP block covers the ECP**: the electron count stands on the element's `SYM-ECP` line and every term
`(r exponent, gaussian exponent, coefficient)` of every potential is a row of the block -/
theorem g94_writer_covers_ecp {ν : Type} (T : ETables ν) (z : Nat) (nelec : ν) (pots : List (EPot ν)) :
    ELine.other [T.tagTok z, T.natTok ((pots.map (·.am)).foldl max 0), nelec] ∈ G94.ecpBlock T z nelec pots
    ∧ ∀ p ∈ pots, ∀ t ∈ p.terms, ELine.other [t.1, t.2.1, t.2.2] ∈ G94.ecpBlock T z nelec pots := by
  constructor
  · exact List.mem_cons_of_mem _ List.mem_cons_self      -- the second line of the block
  · intro p hp t ht
    exact g94_potLinesE_sub T z nelec hp (g94_term_mem_potLinesE T _ ht)

open BSE.Turbomole BSE.Nwchem in
/-- **Turbomole electron section covers the basis**: every element is named, and for every shell and primitive `i` there is a
row holding exactly exponent `i` followed by coefficient `i` of every contraction -/
theorem turbomole_writer_covers_shells {ν : Type} (T : TTables ν) (name : Nwchem.Str) (els : List (Nat × List (EShell ν)))
    (e : Nat × List (EShell ν)) (he : e ∈ els) :
    TLine.elem (T.symOf e.1) name ∈ electronLinesT T name els
    ∧ ∀ sh ∈ e.2, Rect sh.exps.length sh.coefs → ∀ i (hi : i < sh.exps.length),
        TLine.row (sh.exps[i] :: sh.coefs.filterMap (·[i]?)) ∈ electronLinesT T name els := by
  constructor
  · exact turbomole_elementLinesT_sub T name he (List.mem_append_left _ List.mem_cons_self)      -- its first line
  · intro sh hsh hr i hi
    exact turbomole_elementLinesT_sub T name he (turbomole_shellLinesT_sub T name hsh
      (turbomole_row_mem_shellLinesT T sh (row_mem_zipStar sh.exps sh.coefs hr i hi)))

end BSE.Props.C04
