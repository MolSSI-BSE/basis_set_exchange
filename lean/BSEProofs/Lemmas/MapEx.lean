import BSEModel.Json
/-! What it means for an `Except` program of the model to return.  A `do` block returns `b` iff each step returns and
the last one gives `b` (`bind_eq_ok`); a guard `if c then .error e else x` returns iff `¬ c` and `x` returns
(`ite_error_eq_ok`; `throw_eq_error`, `error_bind` bring a raising branch into that form); `mapEx f l` returns `r` iff
`l.map f = r.map .ok` (`mapEx_eq_ok`), from which length, entries, membership, `map` and `++` facts follow by the `List.map`
lemmas; an induction along `l` takes one element off with `mapEx_cons_eq_ok`.  `mapE`, `mapExcept`, `mapG`, `mapR` are the
same function under other names: each has its bridge `… = mapEx f l` next to its users (`mapE_eq` in `PruneShell`,
`mapExcept_eq` in `ElementsText`, `mapG_eq` in `G94RT`, `mapR_eq` in `NwchemRT`), so that this file needs none of their
models. -/
namespace BSE

theorem bind_eq_ok {ε α β : Type} {x : Except ε α} {f : α → Except ε β} {b : β} :
    (x >>= f) = .ok b ↔ ∃ a, x = .ok a ∧ f a = .ok b := by
  cases x <;> simp [bind, Except.bind]

theorem pure_eq_ok {ε α : Type} {a b : α} : (pure a : Except ε α) = .ok b ↔ a = b := by
  simp [pure, Except.pure]

theorem throw_eq_error {ε α : Type} (e : ε) : (throw e : Except ε α) = .error e := rfl

theorem error_bind {ε α β : Type} (e : ε) (f : α → Except ε β) : (Except.error e >>= f) = .error e := rfl

theorem ite_error_eq_ok {ε α : Type} {c : Prop} [Decidable c] {e : ε} {x : Except ε α} {y : α} :
    (if c then .error e else x) = .ok y ↔ ¬ c ∧ x = .ok y := by split <;> simp [*]

theorem error_of_not_ok {ε α : Type} {x : Except ε α} (h : ∀ a, x ≠ .ok a) : ∃ e, x = .error e := by
  cases x with
  | error e => exact ⟨e, rfl⟩
  | ok a => exact absurd rfl (h a)

theorem mapEx_cons_eq_ok {α β ε : Type} {f : α → Except ε β} {a : α} {as : List α} {r : List β} :
    mapEx f (a :: as) = .ok r ↔ ∃ b bs, f a = .ok b ∧ mapEx f as = .ok bs ∧ r = b :: bs := by
  cases ha : f a with
  | error e => simp [mapEx, ha]
  | ok b => cases hm : mapEx f as <;> simp [mapEx, ha, hm, eq_comm]

theorem mapEx_eq_ok {α β ε : Type} {f : α → Except ε β} {l : List α} {r : List β} :
    mapEx f l = .ok r ↔ l.map f = r.map .ok := by
  induction l generalizing r with
  | nil => cases r <;> simp [mapEx]
  | cons a as ih =>
    rw [mapEx_cons_eq_ok, List.map_cons]
    constructor
    · rintro ⟨b, bs, hb, hbs, rfl⟩
      rw [hb, ih.1 hbs, List.map_cons]
    · intro h
      cases r with
      | nil => cases h
      | cons b bs =>
        injection h with hb hbs
        exact ⟨b, bs, hb, ih.2 hbs, rfl⟩

theorem mapEx_ok {α β ε : Type} {f : α → Except ε β} {l : List α} {r : List β} (h : mapEx f l = .ok r) :
    r.length = l.length ∧ ∀ i (h1 : i < l.length) (h2 : i < r.length), f l[i] = .ok r[i] := by
  have h := mapEx_eq_ok.1 h
  refine ⟨by simpa using (congrArg List.length h).symm, fun i h1 h2 => ?_⟩
  simpa [h1, h2] using congrArg (·[i]?) h

theorem mapEx_mem {α β ε : Type} {f : α → Except ε β} {l : List α} {r : List β} (h : mapEx f l = .ok r) (b : β) :
    b ∈ r ↔ ∃ a ∈ l, f a = .ok b := by
  have hb : b ∈ r ↔ Except.ok b ∈ r.map (Except.ok (ε := ε)) := by simp
  rw [hb, ← mapEx_eq_ok.1 h, List.mem_map]

theorem mapEx_map {α β γ ε : Type} (f : β → Except ε γ) (g : α → β) (h : α → γ) (l : List α)
    (hf : ∀ x ∈ l, f (g x) = .ok (h x)) : mapEx f (l.map g) = .ok (l.map h) :=
  mapEx_eq_ok.2 (by simpa using hf)

theorem mapEx_append {α β ε : Type} {f : α → Except ε β} {a b : List α} {ra rb : List β}
    (ha : mapEx f a = .ok ra) (hb : mapEx f b = .ok rb) : mapEx f (a ++ b) = .ok (ra ++ rb) :=
  mapEx_eq_ok.2 (by rw [List.map_append, List.map_append, mapEx_eq_ok.1 ha, mapEx_eq_ok.1 hb])

theorem mapEx_congr_mem {α β ε : Type} (f g : α → Except ε β) (l : List α) (h : ∀ x ∈ l, f x = g x) :
    mapEx f l = mapEx g l := by
  induction l with
  | nil => rfl
  | cons a as ih =>
    simp only [mapEx, h a (by simp), ih (fun x hx => h x (by simp [hx]))]

end BSE
