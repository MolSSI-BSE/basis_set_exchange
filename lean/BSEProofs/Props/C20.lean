import BSEGen.Index
import BSEProofs.Lemmas.ElementsText
import BSEProofs.Lemmas.ElementTable
import BSEProofs.Lemmas.InsSort
/-! # C20 — element, name and angular-momentum notations convert back and forth without loss

The tables (`dataTable`, `amcharHik/Hij`, `aminfo`, `specialAm`) are the ones
regenerated from `lut.py` on every run, so the `decide +kernel` statements below are re-checked
against the source as it is now.

The parts, in order: (1) `expand_elements ∘ compact_elements` is the sorted set, on runs of atomic numbers
(`expand_compact`) and on the strings themselves (`expand_compact_text`); (2) the element table: number, symbol and name
(`Z_sym_official`, `sym_Z_inverse`, `name_Z_inverse`); (3) angular-momentum letters in both conventions (`am_inverse`,
`amchar_inverse`, `am_conventions`); (4) `electron_shells_start` (`shellsStart_accounts`, `shellsStart_refuses`); (5) basis
names and file names (`name_file_roundtrip_index`, `name_file_roundtrip_limit`); (6) contraction summaries
(`contraction_counts`). -/
namespace BSE.Props.C20
open BSE.Notation BSE.Gen.Lut

theorem expandPiece_pieceOf (s e : Nat) :
    expandPiece (pieceOf (s, e)) = List.range' s (e + 1 - s) := by
  unfold pieceOf
  by_cases h1 : s = e
  · subst h1; simp [expandPiece]
  · by_cases h2 : e = s + 1
    · subst h2; simp [expandPiece]
      have : s + 1 + 1 - s = 2 := by omega
      rw [this]; simp [List.range'_succ]
    · simp [h1, h2, expandPiece]

theorem runsAux_expand (s e : Nat) (xs : List Nat) (hse : s ≤ e) :
    ((runsAux s e xs).map pieceOf).flatMap expandPiece = List.range' s (e + 1 - s) ++ xs := by
  induction xs generalizing s e with
  | nil => simp [runsAux, expandPiece_pieceOf s e]
  | cons x xs ih =>
    unfold runsAux
    split
    · rename_i hx1
      subst hx1
      rw [ih s (e + 1) (by omega), show e + 1 + 1 - s = (e + 1 - s) + 1 by omega, List.range'_concat]
      simp
      omega
    · simp only [List.map_cons, List.flatMap_cons]
      rw [expandPiece_pieceOf s e, ih x x (Nat.le_refl x)]
      simp [List.range'_succ]

theorem expand_compact_pieces (l : List Nat) : expandPieces (compactPieces l) = l := by
  unfold expandPieces compactPieces
  cases l with
  | nil => simp [runs]
  | cons x xs => simpa [runs, List.range'_succ] using runsAux_expand x x xs (Nat.le_refl x)

theorem insertSorted_isInsert : InsSort.IsInsertDedup (· < ·) insertSorted := ⟨fun _ => rfl, fun _ _ _ => rfl⟩

theorem sortDedup_sorted (l : List Nat) : (sortDedup l).Pairwise (· < ·) :=
  insertSorted_isInsert.sort_sorted (fun _ _ _ => Nat.lt_trans) (by omega) l

theorem mem_sortDedup (l : List Nat) (y : Nat) : y ∈ sortDedup l ↔ y ∈ l := insertSorted_isInsert.mem_sort l y

/-- **expand ∘ compact is the sorted set**: for every list `S` of atomic numbers (any order, any
repetitions, including the empty one) the ranges `compact_elements` forms expand to exactly the
strictly increasing list of the members of `S`. -/
theorem expand_compact (S : List Nat) :
    expandPieces (compactPieces (sortDedup S)) = sortDedup S
      ∧ (sortDedup S).Pairwise (· < ·) ∧ ∀ z, z ∈ sortDedup S ↔ z ∈ S :=
  ⟨expand_compact_pieces _, sortDedup_sorted S, mem_sortDedup S⟩

example : expandPieces (compactPieces (sortDedup [10, 1, 2, 3, 8, 6, 7, 2])) = [1, 2, 3, 6, 7, 8, 10] := by decide

/-- for every Z of the table: the symbol `compact_elements` prints is a word of letters, and `expand_elements` reads it as Z -/
theorem known_Z : ∀ z ∈ List.range' 1 118, KnownZ z := by
  intro z hz
  obtain ⟨r, hr, hrow, rfl⟩ := rowOfZ_range hz
  have rc := table_case r hr
  have hsym : symFromZNorm r.2.1 = some (capitalize r.1) := by simp [symFromZNorm, symFromZ, hrow]
  have hof : symOf r.2.1 = capitalize r.1 := by simp [symOf, hsym]
  have hal : ∀ c ∈ capitalize r.1, c.isAlpha = true := List.all_eq_true.1 rc.capAlpha
  obtain ⟨c, cs, hc⟩ : ∃ c cs, capitalize r.1 = c :: cs := by
    cases h : r.1 with
    | nil => exact absurd h rc.ne
    | cons c cs => exact ⟨_, _, rfl⟩
  have hdec : isDecimalStr (capitalize r.1) = false := by
    simp [isDecimalStr, hc, alpha_not_digit (hal c (by simp [hc]))]
  rw [KnownZ, hof]
  refine ⟨hsym, ⟨by simp [hc], fun c hc => ?_⟩, ?_⟩
  · exact alpha_plain (hal c hc)
  · simp [zFromStr, hdec, zFromSym_row hr rc.cap]

/-- **`expand_elements(compact_elements(S))` is the sorted set S, on the strings themselves**: for every non-empty list of atomic
numbers 1..118 (any order, any repetitions) `compact_elements` produces a string, and `expand_elements` — its squeezing of
repeated separators, removal of white space, stripping of commas, its four malformed-pattern tests, the split at the commas
and the expansion of every `A-B` — turns that string into exactly the strictly increasing list of the members of S -/
theorem expand_compact_text (S : List Nat) (hne : S ≠ []) (hz : ∀ z ∈ S, z ∈ List.range' 1 118) :
    ∃ s, compactElements S = some s ∧ expandStr s = .ok (sortDedup S) := by
  have hknown : ∀ z ∈ sortDedup S, KnownZ z := fun z hzm => known_Z z (hz z ((mem_sortDedup S z).1 hzm))
  have hpk := pieces_known (sortDedup S) hknown
  refine ⟨_, compactElements_text S hpk, ?_⟩
  rw [expandStr_pieces _ hpk, expand_compact_pieces]

/-- on the text: seven numbers in disorder, one of them twice -/
example : compactElements [10, 1, 2, 3, 8, 6, 7, 2] = some "H-Li,C-O,Ne".toList
    ∧ (match expandStr "H-Li,C-O,Ne".toList with | .ok r => r == [1, 2, 3, 6, 7, 8, 10] | .error _ => false) = true := by decide +kernel

/-- the current official symbols, Z = 1 … 118 (IUPAC 2016) — the specification side -/
def official : List Str :=
  [['h'], ['h','e'], ['l','i'], ['b','e'], ['b'], ['c'], ['n'], ['o'], ['f'], ['n','e'],
   ['n','a'], ['m','g'], ['a','l'], ['s','i'], ['p'], ['s'], ['c','l'], ['a','r'], ['k'], ['c','a'],
   ['s','c'], ['t','i'], ['v'], ['c','r'], ['m','n'], ['f','e'], ['c','o'], ['n','i'], ['c','u'], ['z','n'],
   ['g','a'], ['g','e'], ['a','s'], ['s','e'], ['b','r'], ['k','r'], ['r','b'], ['s','r'], ['y'], ['z','r'],
   ['n','b'], ['m','o'], ['t','c'], ['r','u'], ['r','h'], ['p','d'], ['a','g'], ['c','d'], ['i','n'], ['s','n'],
   ['s','b'], ['t','e'], ['i'], ['x','e'], ['c','s'], ['b','a'], ['l','a'], ['c','e'], ['p','r'], ['n','d'],
   ['p','m'], ['s','m'], ['e','u'], ['g','d'], ['t','b'], ['d','y'], ['h','o'], ['e','r'], ['t','m'], ['y','b'],
   ['l','u'], ['h','f'], ['t','a'], ['w'], ['r','e'], ['o','s'], ['i','r'], ['p','t'], ['a','u'], ['h','g'],
   ['t','l'], ['p','b'], ['b','i'], ['p','o'], ['a','t'], ['r','n'], ['f','r'], ['r','a'], ['a','c'], ['t','h'],
   ['p','a'], ['u'], ['n','p'], ['p','u'], ['a','m'], ['c','m'], ['b','k'], ['c','f'], ['e','s'], ['f','m'],
   ['m','d'], ['n','o'], ['l','r'], ['r','f'], ['d','b'], ['s','g'], ['b','h'], ['h','s'], ['m','t'], ['d','s'],
   ['r','g'], ['c','n'], ['n','h'], ['f','l'], ['m','c'], ['l','v'], ['t','s'], ['o','g']]

/-- Z → symbol gives the current official symbol for every element -/
theorem Z_sym_official :
    ∀ i ∈ List.range 118, symFromZ (i + 1) = official[i]? := by decide +kernel

/-- Z → symbol → Z is the identity for every Z the table knows (also through the capitalised form
that `compact_elements` prints) -/
theorem sym_Z_inverse :
    ∀ r ∈ dataTable, ((symFromZ r.2.1).bind zFromSym = some r.2.1
        ∧ (symFromZNorm r.2.1).bind zFromSym = some r.2.1) := by
  intro r hr
  obtain ⟨r', hr', hrow, hz⟩ := rowOfZ_mem hr
  have hc := table_case r' hr'
  simp [symFromZNorm, symFromZ, hrow, zFromSym_row hr' hc.sym, zFromSym_row hr' hc.cap, hz]

/-- every symbol of the table (old systematic ones included) maps to its own Z, in any case -/
theorem sym_lookup :
    ∀ r ∈ dataTable, zFromSym r.1 = some r.2.1 ∧ zFromSym (capitalize r.1) = some r.2.1
        ∧ zFromSym (r.1.map Char.toUpper) = some r.2.1 := fun r hr =>
  have hc := table_case r hr
  ⟨zFromSym_row hr hc.sym, zFromSym_row hr hc.cap, zFromSym_row hr hc.upper⟩

theorem name_Z_inverse :
    ∀ r ∈ dataTable, zFromName r.2.2 = some r.2.1 ∧ (nameFromZ r.2.1).bind zFromName = some r.2.1 := by
  intro r hr
  obtain ⟨r', hr', hrow, hz⟩ := rowOfZ_mem hr
  simp [nameFromZ, hrow, zFromName_row hr (table_case r hr).name, zFromName_row hr' (table_case r' hr').name, hz]

/-- symbols are usable inside the compact notation: non-empty, purely alphabetic (so they contain
no `,`, `-` or blank and are never mistaken for a number) -/
theorem sym_alpha : ∀ r ∈ dataTable, r.1 ≠ [] ∧ r.1.all Char.isAlpha = true := fun r hr =>
  have hc := table_case r hr
  ⟨hc.ne, hc.alpha⟩

/-- every Z from 1 to 118 has a symbol -/
theorem Z_known : ∀ i ∈ List.range 118, (symFromZ (i + 1)).isSome = true := by
  intro i hi
  have := table_Z (i + 1) (by simp only [List.mem_range'_1]; have := List.mem_range.1 hi; omega)
  simpa [symFromZ] using this

theorem am_inverse : ∀ hij : Bool, ∀ l ∈ List.range 25,
    (amChar hij l).bind (amInt hij) = some l := amInt_amChar

theorem amchar_inverse : ∀ hij : Bool, ∀ c ∈ amTable hij,
    (amInt hij c).bind (amChar hij) = some c ∧ (amInt hij c.toUpper).bind (amChar hij) = some c := by
  intro hij c hc
  obtain ⟨l, hl, rfl⟩ := List.getElem_of_mem hc
  have hget : amChar hij l = some (amTable hij)[l] := List.getElem?_eq_getElem hl
  obtain ⟨c, h1, h2, h3, _⟩ := letter_table hij l (List.mem_range.2 hl)
  rw [hget] at h1
  cases h1
  rw [h2, h3]
  exact ⟨hget, hget⟩

/-- the two conventions agree below l = 7 and differ exactly as documented there -/
theorem am_conventions : (∀ l ∈ List.range 7, amChar true l = amChar false l)
    ∧ amChar false 7 = some 'k' ∧ amChar true 7 = some 'j' ∧ (amTable false).length = 25
    ∧ (amTable true).length = 26 := by decide +kernel

/-- `lut.electron_shells_start`: the starting quantum numbers account for exactly the electrons given; for every count up to
118 (beyond that the function raises) -/
theorem shellsStart_accounts : ∀ n ∈ List.range 119,
    ∀ s, shellsStart n = some s → electronsOf s = n := by decide +kernel

theorem shellsStart_refuses (n : Nat) (h : n > 118) : shellsStart n = none := by
  simp [shellsStart, h]

example : shellsStart 10 = some [3, 3, 3, 4] ∧ shellsStart 28 = some [4, 4, 4, 4]
    ∧ shellsStart 3 = none := by decide +kernel

/-- names without escape characters and without underscores are left alone in both directions -/
theorem toFileChars_plain (l : List Char) (h1 : '/' ∉ l) (h2 : '*' ∉ l) : toFileChars l = l := by
  unfold toFileChars
  induction l with
  | nil => rfl
  | cons x xs ih =>
    have hx1 : x ≠ '/' := fun h => h1 (by simp [h])
    have hx2 : x ≠ '*' := fun h => h2 (by simp [h])
    simp only [List.flatMap_cons, encChar, hx1, hx2, if_false, List.singleton_append]
    rw [ih (fun h => h1 (by simp [h])) (fun h => h2 (by simp [h]))]

theorem replaceSub_absent (p : Char) (ps : List Char) (c : Char) (l : List Char) (h : p ∉ l) :
    replaceSub (p :: ps) c l = l := by
  unfold replaceSub
  induction l with
  | nil => rfl
  | cons x xs ih =>
    have hx : (p == x) = false := by simpa using fun e : p = x => h (by simp [e])
    simp only [replaceSubAux, List.isPrefixOf, hx, Bool.false_and, Bool.false_eq_true, if_false]
    rw [ih (fun hm => h (by simp [hm]))]

theorem roundtrip_plain (l : List Char) (h : l.all (fun c => c != '/' && c != '*' && c != '_') = true) :
    fromFileChars (toFileChars l) = l := by
  have hc : ∀ c ∈ l, c ≠ '/' ∧ c ≠ '*' ∧ c ≠ '_' := by simpa [List.all_eq_true, and_assoc] using h
  rw [toFileChars_plain l (fun hm => (hc _ hm).1 rfl) (fun hm => (hc _ hm).2.1 rfl)]
  unfold fromFileChars
  rw [show "_sl_".toList = '_' :: "sl_".toList from rfl, show "_st_".toList = '_' :: "st_".toList from rfl,
    replaceSub_absent _ _ _ _ (fun hm => (hc _ hm).2.2 rfl), replaceSub_absent _ _ _ _ (fun hm => (hc _ hm).2.2 rfl)]

/-- **file name → basis name undoes basis name → file name for every name of the index**
(`Gen.Index.displayNames` is regenerated from `data/METADATA.json` on every run): most names have no `/`, `*` or `_`
and are left alone both ways; the others are computed -/
theorem name_file_roundtrip_index :
    ∀ n ∈ BSE.Gen.Index.displayNames,
      fromFileChars (toFileChars (lowerAscii n)) = lowerAscii n := by
  have h : ∀ n ∈ BSE.Gen.Index.displayNames,
      (lowerAscii n).all (fun c => c != '/' && c != '*' && c != '_') = true
        ∨ fromFileChars (toFileChars (lowerAscii n)) = lowerAscii n := by decide +kernel
  exact fun n hn => (h n hn).elim (roundtrip_plain _) id

/-- the index key of every entry is the transformed display name -/
theorem index_keys_are_transformed :
    BSE.Gen.Index.keys = BSE.Gen.Index.displayNames.map transformName := by
  decide +kernel

/-- The law is *not* unconditional: an escape character followed by `sl`/`st` and another escape
is decoded wrongly (`"*sl/" ↦ "_st_sl_sl_" ↦ "_st/sl_"`).  No such name exists in the index
(`name_file_roundtrip_index`); recorded so that the limit of the guarantee is explicit. -/
theorem name_file_roundtrip_limit :
    fromFileChars (toFileChars "*sl/".toList) ≠ "*sl/".toList := by decide

theorem lookupAm_cons (a p c : Nat) (m : List (Nat × Nat × Nat)) (am : Nat) :
    lookupAm ((a, p, c) :: m) am = if a = am then (p, c) else lookupAm m am := by
  by_cases h : a = am <;> simp [lookupAm, h]

theorem lookupAm_bump (a p c am : Nat) (m : List (Nat × Nat × Nat)) :
    lookupAm (bump a p c m) am
      = if a = am then ((lookupAm m am).1 + p, (lookupAm m am).2 + c) else lookupAm m am := by
  induction m with
  | nil => by_cases h : a = am <;> simp [bump, lookupAm, h]
  | cons x xs ih =>
    obtain ⟨a0, p0, c0⟩ := x
    unfold bump
    by_cases h0 : a0 = a
    · subst h0
      simp only [if_true, lookupAm_cons]
      split <;> rfl
    · simp only [h0, if_false, lookupAm_cons, ih]
      by_cases h : a0 = am
      · subst h; simp [Ne.symm h0]
      · simp [h]

/-- primitives / contractions that the shells contribute to momentum `am` -/
def specCounts (shells : List (List Nat × Nat × Nat)) (am : Nat) : Nat × Nat :=
  ((shells.map fun sh => sh.1.count am * sh.2.1).sum,
   (shells.map fun sh => sh.1.count am * (if sh.1.length > 1 then 1 else sh.2.2)).sum)

theorem fold_bump (ams : List Nat) (np nc am : Nat) (m : List (Nat × Nat × Nat)) :
    lookupAm (ams.foldl (fun m a => bump a np nc m) m) am
      = ((lookupAm m am).1 + ams.count am * np, (lookupAm m am).2 + ams.count am * nc) := by
  induction ams generalizing m with
  | nil => simp
  | cons a as ih =>
    simp only [List.foldl_cons]
    rw [ih, lookupAm_bump]
    by_cases h : a = am
    · subst h
      simp only [if_true, List.count_cons_self, Nat.add_mul, Nat.one_mul, Prod.mk.injEq]
      constructor <;> omega
    · have h' : (a == am) = false := by simpa using h
      simp only [h, if_false, List.count_cons, h', Bool.false_eq_true, Nat.add_zero]

theorem fold_shellStep (shells : List (List Nat × Nat × Nat)) (am : Nat) (m : List (Nat × Nat × Nat)) :
    lookupAm (shells.foldl shellStep m) am
      = ((lookupAm m am).1 + (specCounts shells am).1, (lookupAm m am).2 + (specCounts shells am).2) := by
  induction shells generalizing m with
  | nil => simp [specCounts]
  | cons sh rest ih =>
    simp only [List.foldl_cons]
    rw [ih]
    unfold shellStep
    rw [fold_bump]
    simp only [specCounts, List.map_cons, List.sum_cons, Prod.mk.injEq]
    constructor <;> omega

/-- **`contraction_string` counts exactly the primitives and contractions present per momentum**
(a fused shell counts one contraction per member, a general contraction all its columns) -/
theorem contraction_counts (shells : List (List Nat × Nat × Nat)) (am : Nat) :
    lookupAm (contMap shells) am = specCounts shells am := by
  unfold contMap
  rw [fold_shellStep]
  simp [lookupAm]

example : lookupAm (contMap [([0], 6, 2), ([0, 1], 3, 2), ([1], 1, 1)]) 0 = (9, 3)
    ∧ lookupAm (contMap [([0], 6, 2), ([0, 1], 3, 2), ([1], 1, 1)]) 1 = (4, 2) := by decide

end BSE.Props.C20
