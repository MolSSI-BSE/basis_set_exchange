import BSEProofs.Lemmas.PruneFull
/-! Shape promises of the re-contraction operations (C02): what the *result* looks like — for every input, except that
`uncontractGeneral_shape` needs well-formed shells (`SemWF`: a dead column would leave a shell without columns behind);
`makeGeneral_shape` carries the hypotheses `hz`, `hw` of its statement in `Props/C02` and uses neither. -/
namespace BSE
variable {ν : Type}

theorem uncontractGeneralCore_shape (shells : List (Shell ν)) (s : Shell ν)
    (hs : s ∈ uncontractGeneralCore shells) (h1 : s.am.length = 1) : s.coefs.length = 1 := by
  obtain ⟨sh, _, ⟨hc, rfl⟩ | ⟨_, _, c, _, rfl⟩⟩ := (mem_uncontractGeneralCore shells s).1 hs
  · exact hc.resolve_right (by omega)
  · rfl

/-- **uncontract_general, whole operation**: no general contraction is left in a single-momentum shell -/
theorem uncontractGeneral_shape [DecidableEq ν] (val : ν → Rat) (shells out : List (Shell ν))
    (hw : ∀ sh ∈ shells, SemWF val sh) (h : uncontractGeneral val shells = .ok out)
    (s : Shell ν) (hs : s ∈ out) (h1 : s.am.length = 1) : s.coefs.length = 1 := by
  unfold uncontractGeneral at h
  obtain ⟨sh, hsh, hp⟩ := mem_pruneShells val _ out h s hs
  have hwf := semWF_uncontractGeneralCore val shells hw sh hsh
  have ham := pruneShell_am val sh s hp
  rw [pruneShell_ncols_wf val sh s hwf hp]
  exact uncontractGeneralCore_shape shells sh hsh (ham ▸ h1)

/-- **uncontract_spdf**: whatever is still fused has no member above `max_am` — for every shell list -/
theorem uncontractSpdf_shape (k : Nat) (shells : List (Shell ν)) (s : Shell ν)
    (hs : s ∈ uncontractSpdf k shells) (hf : s.am.length > 1) : ∀ a ∈ s.am, a ≤ k := by
  obtain ⟨sh, _, hcase⟩ := (mem_uncontractSpdf k shells s).1 hs
  rw [splitFused_eq] at hcase
  rcases hcase with ⟨hn, rfl⟩ | ⟨_, ⟨rfl, _⟩ | hin⟩
  · exact absurd hf hn
  · intro a ha
    obtain ⟨p, hp, rfl⟩ := List.mem_map.1 ha
    simpa using (List.mem_filter.1 hp).2
  · obtain ⟨p, _, rfl⟩ := List.mem_map.1 hin
    exact absurd hf (by simp [Shell.piece])

/-- the members split off by `uncontract_spdf` are single-momentum shells above `max_am`, one contraction each -/
theorem uncontractSpdf_split_off (k : Nat) (sh : Shell ν) (s : Shell ν) (hs : s ∈ (splitFused k sh).1) :
    ∃ a, s.am = [a] ∧ a > k ∧ s.coefs.length = 1 := by
  rw [splitFused_eq] at hs
  obtain ⟨p, hp, rfl⟩ := List.mem_map.1 hs
  exact ⟨p.1, rfl, by simpa using (List.mem_filter.1 hp).2, rfl⟩

theorem nodup_dedupKeys {κ : Type} [DecidableEq κ] (l : List κ) : (dedupKeys l).Nodup := by
  induction l with
  | nil => simp [dedupKeys]
  | cons k ks ih =>
    unfold dedupKeys
    rw [List.nodup_cons]
    refine ⟨?_, ih.sublist List.filter_sublist⟩
    simp [List.mem_filter]

theorem perm_sortAm (l : List (List Nat)) : (sortAm l).Perm l := insertAm_isInsert.sort_perm l

theorem sorted_sortAm (l : List (List Nat)) : (sortAm l).Pairwise (fun x y => x.headD 0 ≤ y.headD 0) :=
  insertAm_isInsert.sort_sorted (R := fun x y : List Nat => x.headD 0 ≤ y.headD 0) (fun _ _ _ => Nat.le_trans)
    (fun _ _ h => h) (fun _ _ h => Nat.le_of_not_le h) l

theorem mergedAm_single (shells : List (Shell ν)) :
    ∀ am ∈ sortAm (dedupKeys ((shells.filter (fun sh => ¬ sh.am.length > 1)).map (·.am))), ¬ am.length > 1 := by
  intro am ham
  obtain ⟨s, hs, rfl⟩ := List.mem_map.1 ((mem_dedupKeys _ _).1 ((mem_sortAm _ _).1 ham))
  simpa using (List.mem_filter.1 hs).2

theorem makeGeneralCore_single_ams [DecidableEq ν] (zero : ν) (shells : List (Shell ν)) :
    ((makeGeneralCore zero sortAm shells).filter (fun sh => ¬ sh.am.length > 1)).map (·.am)
      = sortAm (dedupKeys ((shells.filter (fun sh => ¬ sh.am.length > 1)).map (·.am))) := by
  unfold makeGeneralCore
  -- of the fused shells none is kept, of the merged ones all are, and each was given its momentum
  have hfused : ∀ s ∈ shells.filter (fun sh => sh.am.length > 1), ¬ decide (¬ s.am.length > 1) = true :=
    fun s hs => by simpa using (List.mem_filter.1 hs).2
  rw [List.filter_append, List.filter_eq_nil_iff.2 hfused, List.nil_append, List.filter_eq_self.2 ?hmerged, List.map_map]
  · exact List.map_id'' (fun _ => rfl) _
  case hmerged =>
    intro s hs
    obtain ⟨am, ham, rfl⟩ := List.mem_map.1 hs
    exact decide_eq_true (mergedAm_single shells am ham)

theorem makeGeneralCore_shape [DecidableEq ν] (zero : ν) (shells : List (Shell ν)) :
    (((makeGeneralCore zero sortAm shells).map (·.am)).filter (fun am => ¬ am.length > 1)).Nodup ∧
    (((makeGeneralCore zero sortAm shells).map (·.am)).filter (fun am => ¬ am.length > 1)).Pairwise
      (fun x y => x.headD 0 ≤ y.headD 0) := by
  have hams : ((makeGeneralCore zero sortAm shells).map (·.am)).filter (fun am => ¬ am.length > 1)
      = sortAm (dedupKeys ((shells.filter (fun sh => ¬ sh.am.length > 1)).map (·.am))) := by
    rw [List.filter_map]
    exact makeGeneralCore_single_ams zero shells
  rw [hams]
  exact ⟨(perm_sortAm _).nodup_iff.2 (nodup_dedupKeys _), sorted_sortAm _⟩

theorem pruneShells_ams_sublist [DecidableEq ν] (val : ν → Rat) (shells out : List (Shell ν))
    (h : pruneShells val shells = .ok out) : (out.map (·.am)).Sublist (shells.map (·.am)) := by
  obtain ⟨ss, hm, rfl⟩ := pruneShells_ok h
  rw [← mapE_map_eq (·.am) (·.am) hm fun x _ y hy => pruneShell_am val x y hy]
  exact (dedup_nil ss).1.map _

/-- **make_general, whole operation**: among the single-momentum shells of the result every momentum occurs once, in
ascending order; fused shells are not created -/
theorem makeGeneral_shape [DecidableEq ν] (val : ν → Rat) (zero : ν) (hz : val zero = 0) (skip : Bool)
    (shells out : List (Shell ν))
    (hw : ∀ sh ∈ (if skip then shells else uncontractSpdf 0 shells), SemWF val sh)
    (h : makeGeneral val zero skip shells = .ok out) :
    ((out.map (·.am)).filter (fun am => ¬ am.length > 1)).Nodup ∧
    ((out.map (·.am)).filter (fun am => ¬ am.length > 1)).Pairwise (fun x y => x.headD 0 ≤ y.headD 0) := by
  have hsub := (pruneShells_ams_sublist val _ out (makeGeneral_ok h)).filter (fun am => ¬ am.length > 1)
  have hcore := makeGeneralCore_shape zero (if skip then shells else uncontractSpdf 0 shells)
  exact ⟨hcore.1.sublist hsub, hcore.2.sublist hsub⟩

end BSE
