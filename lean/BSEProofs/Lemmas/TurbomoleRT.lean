import BSEProofs.Lemmas.NwchemRT
import BSEProofs.Lemmas.Partition

/-! # Turbomole electron section: reading what was written gives the shells back -/

namespace BSE.Turbomole
open BSE.Nwchem (Str EShell ShellOK toR mapR mapR_eq)
variable {ν : Type}

/-- an element block as the `before=1` partition sees it: the `*` before the element line, the element line, the rest -/
def elemBlock (T : TTables ν) (name : Str) (e : Nat × List (EShell ν)) : TLine ν × TLine ν × List (TLine ν) :=
  (.star, .elem (T.symOf e.1) name, .star :: e.2.flatMap (shellLinesT T))

theorem electronLinesT_eq (T : TTables ν) (name : Str) (els : List (Nat × List (EShell ν))) :
    electronLinesT T name els = (els.map (elemBlock T name)).flatMap lines3 ++ [.star] := by
  rw [List.flatMap_map]
  exact rotate_sep TLine.star (fun e => .elem (T.symOf e.1) name :: .star :: e.2.flatMap (shellLinesT T)) els

theorem shellLines_no_elem (T : TTables ν) (shells : List (EShell ν)) :
    ∀ x ∈ shells.flatMap (shellLinesT T), isElem x = false ∧ isStarLike x = false := by
  intro x hx
  obtain ⟨sh, _, hsh⟩ := List.mem_flatMap.1 hx
  simp only [shellLinesT, List.mem_cons, List.mem_map] at hsh
  rcases hsh with rfl | ⟨r, _, rfl⟩ <;> simp [isElem, isStarLike]

/-- `ShellOK` and what the Turbomole layout adds: one contraction per shell, the primitive count of the `n AM` line reads back -/
structure TShellOK (T : TTables ν) (sh : EShell ν) : Prop where
  base : ShellOK T.toTables sh
  one_col : sh.coefs.length = 1
  count_rt : T.natOf (T.natStr sh.exps.length) = some sh.exps.length

theorem mapR_rowToks (T : TTables ν) (rows : List (List ν)) (h2 : ∀ r ∈ rows, r.length = 2) :
    mapR (rowToks T) (rows.map TLine.row) = .ok rows := by
  -- a row of two tokens is read as it stands
  have hrow : ∀ r ∈ rows, rowToks T (TLine.row r) = .ok (id r) := by
    intro r hr
    match r, h2 r hr with
    | [e, c], _ => rfl
  rw [mapR_eq, mapEx_map (rowToks T) TLine.row id rows hrow, List.map_id]

theorem parseShellT_written (T : TTables ν) (sh : EShell ν) (ok : TShellOK T sh) :
    parseShellT T (shellLinesT T sh) = .ok (toR T.toTables true sh) := by
  have hrows2 : ∀ r ∈ zipStar (sh.exps :: sh.coefs), r.length = 2 := fun r hr => by
    rw [ok.base.rows_shape.2 r hr, ok.one_col]
  unfold parseShellT shellLinesT
  -- the reader's guards, in source order, each fall to one field of `ok`
  simp only [List.isEmpty_iff, List.map_eq_nil_iff, ok.base.rows_ne, Bool.false_eq_true, if_false, ok.count_rt, ok.base.am_rt.1,
    mapR_rowToks T _ hrows2, ok.base.parseMatrix (some 1) (fun _ h => by cases h; exact ok.one_col.symm), bne_self_eq_false, toR]

theorem splitAt_shells (T : TTables ν) (shells : List (EShell ν)) :
    splitAt isShell (shells.flatMap (shellLinesT T)) = ([], shells.map (shellLinesT T)) :=
  splitAt_blocks isShell (fun sh => .shell (T.natStr sh.exps.length) (T.amStr sh.am))
    (fun sh => (zipStar (sh.exps :: sh.coefs)).map .row) shells (fun _ _ => rfl)
    fun _ _ y hy => by obtain ⟨r, _, rfl⟩ := List.mem_map.1 hy; rfl

structure ElemOK (T : TTables ν) (e : Nat × List (EShell ν)) : Prop where
  sym : T.zOf (T.symOf e.1) = some e.1
  shells_ne : e.2 ≠ []
  shells : ∀ sh ∈ e.2, TShellOK T sh

theorem no_starLike (T : TTables ν) (shells : List (EShell ν)) : (shells.flatMap (shellLinesT T)).any isStarLike = false :=
  List.any_eq_false.2 fun x hx => by simp [(shellLines_no_elem T shells x hx).2]

theorem parseElementT_written (T : TTables ν) (name : Str) (e : Nat × List (EShell ν)) (ok : ElemOK T e) :
    parseElementT T (lines3 (elemBlock T name e)) = .ok (e.1, e.2.map (toR T.toTables true)) := by
  unfold parseElementT elemBlock lines3
  simp only [isStar, Bool.and_self, Bool.not_true, Bool.false_eq_true, if_false, no_starLike, ok.sym, splitAt_shells,
    List.isEmpty_nil, if_true]
  rw [mapR_eq, mapEx_map (parseShellT T) (shellLinesT T) (toR T.toTables true) e.2
    (fun sh hsh => parseShellT_written T sh (ok.shells sh hsh))]

theorem hasDupKey_false {α : Type} (l : List (Nat × α)) (h : (l.map (·.1)).Nodup) : hasDupKey l = false := by
  induction l with
  | nil => rfl
  | cons x xs ih =>
    rw [List.map_cons] at h
    obtain ⟨hx, hxs⟩ := List.nodup_cons.1 h
    have hany : (xs.any fun y => y.1 == x.1) = false :=
      List.any_eq_false.2 fun y hy => by simpa using fun heq : y.1 = x.1 => hx (List.mem_map.2 ⟨y, hy, heq⟩)
    simp only [hasDupKey, hany, ih hxs, Bool.or_false]

theorem readElectronT_write (T : TTables ν) (name : Str) (els : List (Nat × List (EShell ν))) (hne : els ≠ [])
    (hnd : (els.map (·.1)).Nodup) (hok : ∀ e ∈ els, ElemOK T e) :
    readElectronT T (electronLinesT T name els) = .ok (els.map fun e => (e.1, e.2.map (toR T.toTables true))) := by
  obtain ⟨x, r, rs, hsplit, hsteal⟩ := split_steal isElem (els.map (elemBlock T name)) (by simpa using hne) (by
    intro b hb
    obtain ⟨e, _, rfl⟩ := List.mem_map.1 hb
    refine ⟨rfl, rfl, fun x hx => ?_⟩
    rcases List.mem_cons.1 hx with rfl | hx
    · rfl
    · exact (shellLines_no_elem T e.2 x hx).1)
  have hlen : ((els.map (lines3 ∘ elemBlock T name)).any fun b => decide (b.length < 4)) = false := by
    apply List.any_eq_false.2
    intro b hb
    obtain ⟨e, he, rfl⟩ := List.mem_map.1 hb
    -- three lines frame the shells, and the first shell brings its header line
    cases hsh : e.2 with
    | nil => exact absurd hsh (hok e he).shells_ne
    | cons sh shs => simp [elemBlock, lines3, hsh, shellLinesT]
  have hstars : (els.map (lines3 ∘ elemBlock T name)).any badStars = false := by
    apply List.any_eq_false.2
    intro b hb
    obtain ⟨e, _, rfl⟩ := List.mem_map.1 hb
    simp only [Function.comp, badStars, elemBlock, lines3, isStar, no_starLike, Bool.and_self, Bool.not_true, Bool.or_false,
      Bool.false_eq_true, not_false_eq_true]
  have hdup : hasDupKey (els.map fun e => (e.1, e.2.map (toR T.toTables true))) = false :=
    hasDupKey_false _ (by simpa [List.map_map, Function.comp_def] using hnd)
  rw [electronLinesT_eq]
  unfold readElectronT
  simp only [List.reverse_concat, List.reverse_reverse, hsplit, List.isEmpty_cons, Bool.false_eq_true, if_false,
    List.length_singleton, bne_self_eq_false, hsteal, List.tail_cons, List.map_map, hlen, hstars, mapR_eq, hdup,
    mapEx_map (parseElementT T) (lines3 ∘ elemBlock T name) _ els fun e he => parseElementT_written T name e (hok e he)]

end BSE.Turbomole
