import BSEModel.Validator
import BSEModel.Num
/-! # C18 — the validator accepts exactly the well-formed basis data

`ValidShell` / `ValidPots` are the declarative rule lists of the property; `validateShell` /
`validatePots` are the executable models of `validator.py` (correspondence-checked against it). -/
namespace BSE.Props.C18

section
variable {ν : Type}

theorem firstErr_none {α ε} (f : α → Option ε) (l : List α) :
    firstErr (l.map f) = none ↔ ∀ x ∈ l, f x = none := by
  induction l with
  | nil => simp [firstErr]
  | cons a as ih =>
    simp only [List.map_cons, List.mem_cons, forall_eq_or_imp]
    cases h : f a with
    | none => simp [firstErr, ih]
    | some e => simp [firstErr]

theorem ite_some_none {ε} (c : Prop) [Decidable c] (e : ε) (x : Option ε) :
    (if c then some e else x) = none ↔ ¬ c ∧ x = none := by
  by_cases h : c <;> simp [h]

theorem firstOf_none {ε} (a b : Option ε) : firstOf a b = none ↔ a = none ∧ b = none := by
  cases a <;> simp [firstOf]

theorem hasDup_false {α} [DecidableEq α] (l : List α) : hasDup l = false ↔ l.Nodup := by
  -- a member occurs at least once, anything else not at all: "every member exactly once" is "everything at most once"
  simp only [hasDup, List.any_eq_false, bne_iff_ne, ne_eq, Decidable.not_not, List.nodup_iff_count]
  refine forall_congr' fun a => ?_
  by_cases ha : a ∈ l
  · have := List.count_pos_iff.2 ha
    simp only [ha, true_imp_iff]
    omega
  · simp [ha, List.count_eq_zero_of_not_mem ha]

theorem allZero_false (val : ν → Rat) (l : List ν) : allZero val l = false ↔ ∃ c ∈ l, val c ≠ 0 := by
  simp only [allZero, List.all_eq_false, beq_iff_eq, ne_eq]

/-- the documented rules for one electron shell -/
structure ValidShell (val : ν → Rat) (sh : Shell ν) : Prop where
  am_nonempty : sh.am ≠ []
  has_primitive : sh.exps.length ≠ 0
  /-- spherical/cartesian tag present exactly when l > 1 -/
  tag_high : sh.am.foldl max 0 > 1 → (sh.ftype = "gto_spherical" ∨ sh.ftype = "gto_cartesian")
  tag_low : ¬ sh.am.foldl max 0 > 1 → ¬ (strInfix "spherical" sh.ftype = true ∨ strInfix "cartesian" sh.ftype = true)
  /-- exponents pairwise distinct in value -/
  distinct : (sh.exps.map val).Nodup
  /-- and positive -/
  positive : ∀ x ∈ sh.exps.map val, x > 0
  /-- every coefficient row matches the exponent count and is not all zero -/
  columns : ∀ g ∈ sh.coefs, g.length = sh.exps.length ∧ ∃ c ∈ g, val c ≠ 0
  /-- no duplicate contraction in a single-momentum shell -/
  no_dup_column : sh.am.length = 1 → (sh.coefs.map (·.map val)).Nodup
  /-- no unused primitive -/
  no_unused : ∀ r ∈ rowsOf sh.coefs, ∃ c ∈ r, val c ≠ 0
  /-- one contraction per member of a fused shell -/
  fused : sh.am.length > 1 → sh.coefs.length = sh.am.length

/-- **the validator model accepts a shell exactly when it satisfies every documented rule** -/
theorem validateShell_iff (val : ν → Rat) (sh : Shell ν) : validateShell val sh = none ↔ ValidShell val sh := by
  have hcol : firstErr (sh.coefs.map fun g => if g.length ≠ sh.exps.length then some VErr.rowLen
        else if allZero val g then some VErr.zeroCol else none) = none
      ↔ ∀ g ∈ sh.coefs, g.length = sh.exps.length ∧ ∃ c ∈ g, val c ≠ 0 := by
    simp only [firstErr_none, ite_some_none, Decidable.not_not, Bool.not_eq_true, allZero_false, and_true]
  unfold validateShell
  simp only [ite_some_none]
  split
  · -- the column check reports an error: the model rejects, and `columns` fails
    rename_i hc
    constructor
    · rintro ⟨-, -, -, -, -, -, h⟩
      cases h
    · intro v
      rw [hcol.2 v.columns] at hc
      cases hc
  · rename_i hc
    -- every remaining check is the negation of one rule, in the order of the rules
    simp only [ite_some_none, Bool.not_eq_true, hasDup_false, List.any_eq_false, allZero_false, not_and,
      Decidable.not_not, decide_eq_true_eq, and_true]
    exact ⟨fun ⟨h1, h2, h3, h4, h5, h6, h7, h8, h9⟩ => ⟨h1, h2, h3, h4, h5, h6, hcol.1 hc, h7, h8, h9⟩,
      fun v => ⟨v.am_nonempty, v.has_primitive, v.tag_high, v.tag_low, v.distinct, v.positive, v.no_dup_column, v.no_unused,
        v.fused⟩⟩

/-- every single violation of a rule is rejected: if the model accepts, each rule holds — so a
dictionary in which any one rule fails cannot be accepted (contrapositive of the iff, per rule) -/
theorem reject_nonpositive (val : ν → Rat) (sh : Shell ν) (x : ν) (hx : x ∈ sh.exps) (h : ¬ val x > 0) :
    validateShell val sh ≠ none := fun hv =>
  h (((validateShell_iff val sh).1 hv).positive (val x) (List.mem_map.2 ⟨x, hx, rfl⟩))

theorem reject_zero_column (val : ν → Rat) (sh : Shell ν) (g : List ν) (hg : g ∈ sh.coefs)
    (h : ∀ c ∈ g, val c = 0) : validateShell val sh ≠ none := fun hv => by
  obtain ⟨_, c, hc, hne⟩ := ((validateShell_iff val sh).1 hv).columns g hg
  exact hne (h c hc)

theorem reject_row_length (val : ν → Rat) (sh : Shell ν) (g : List ν) (hg : g ∈ sh.coefs)
    (h : g.length ≠ sh.exps.length) : validateShell val sh ≠ none := fun hv =>
  h (((validateShell_iff val sh).1 hv).columns g hg).1

/-- a list of shells is accepted iff every shell is -/
theorem validateShells_iff (val : ν → Rat) (shells : List (Shell ν)) :
    validateShells val shells = none ↔ ∀ sh ∈ shells, ValidShell val sh := by
  unfold validateShells
  rw [firstErr_none]
  exact forall₂_congr fun sh _ => validateShell_iff val sh

/-- a potential is checked strictly unless it is the single-term potential of the highest momentum -/
def strictPot (pots : List (Pot ν)) (p : Pot ν) : Prop :=
  p.rexp.length > 1 ∨ p.am ≠ maxLex (pots.map (·.am))

/-- the documented rules for the ECP potentials of an element -/
structure ValidPots (val : ν → Rat) (pots : List (Pot ν)) : Prop where
  /-- no fused potential -/
  single : ∀ p ∈ pots, ¬ p.am.length > 1
  /-- one potential per angular momentum -/
  distinct_am : (pots.map (·.am.headD 0)).Nodup
  /-- as many Gaussian exponents as r-exponents -/
  lengths : ∀ p ∈ pots, p.gexp.length = p.rexp.length
  /-- every coefficient row matches; not all zero when the potential is checked strictly -/
  columns : ∀ p ∈ pots, ∀ g ∈ p.coefs, g.length = p.rexp.length ∧ (strictPot pots p → ∃ c ∈ g, val c ≠ 0)
  no_dup_column : ∀ p ∈ pots, (p.coefs.map (·.map val)).Nodup
  no_unused : ∀ p ∈ pots, strictPot pots p → ∀ r ∈ rowsOf p.coefs, ∃ c ∈ r, val c ≠ 0

theorem strict_bool (pots : List (Pot ν)) (p : Pot ν) :
    (decide (p.rexp.length > 1) || p.am != maxLex (pots.map (·.am))) = true ↔ strictPot pots p := by
  unfold strictPot; simp

/-- **the validator model accepts the potentials exactly when they satisfy every documented ECP rule** -/
theorem validatePots_iff (val : ν → Rat) (pots : List (Pot ν)) : validatePots val pots = none ↔ ValidPots val pots := by
  unfold validatePots validatePot
  simp only [ite_some_none, firstErr_none, firstOf_none]
  -- every check is the negation of one rule, in the order of the rules; `strict_bool` reads the model's flag `strict`
  -- as `strictPot`.  The last four rules are checked potential by potential, so they arrive under one `∀ p ∈ pots`.
  simp only [Bool.not_eq_true, hasDup_false, List.any_eq_false, allZero_false, not_and, Decidable.not_not,
    decide_eq_true_eq, and_true, Bool.and_eq_true, strict_bool]
  constructor
  · rintro ⟨hsingle, hdistinct, hpot⟩
    exact {
      single := hsingle
      distinct_am := hdistinct
      lengths := fun p hp => (hpot p hp).1
      columns := fun p hp => (hpot p hp).2.1
      no_dup_column := fun p hp => (hpot p hp).2.2.1
      no_unused := fun p hp => (hpot p hp).2.2.2 }
  · intro v
    exact ⟨v.single, v.distinct_am,
      fun p hp => ⟨v.lengths p hp, v.columns p hp, v.no_dup_column p hp, v.no_unused p hp⟩⟩

/-- **element level**: accepted iff the shells are valid and pairwise different, and the potentials (which need an
electron count) are valid -/
theorem validateElement_iff [DecidableEq ν] (val : ν → Rat) (shells : Option (List (Shell ν))) (pots : Option (List (Pot ν)))
    (hasElectrons : Bool) :
    validateElement val shells pots hasElectrons = none ↔
      (∀ ss, shells = some ss → (∀ sh ∈ ss, ValidShell val sh) ∧ ss.Nodup)
      ∧ (∀ ps, pots = some ps → hasElectrons = true ∧ ValidPots val ps) := by
  unfold validateElement
  cases shells <;> cases pots <;>
    simp [firstOf_none, ite_some_none, validateShells_iff, validatePots_iff, hasDup_false]

theorem reject_ecp_without_electrons [DecidableEq ν] (val : ν → Rat) (shells : Option (List (Shell ν))) (ps : List (Pot ν)) :
    validateElement val shells (some ps) false ≠ none := fun h =>
  absurd (((validateElement_iff val shells (some ps) false).1 h).2 ps rfl).1 (by simp)

theorem reject_duplicate_shell [DecidableEq ν] (val : ν → Rat) (ss : List (Shell ν)) (pots : Option (List (Pot ν))) (e : Bool)
    (h : ¬ ss.Nodup) : validateElement val (some ss) pots e ≠ none := fun hv =>
  h (((validateElement_iff val (some ss) pots e).1 hv).1 ss rfl).2

end

/-- a valid shell; `m1` … `m6` are six mutations of it, each breaking one rule -/
def good : Shell String :=
  { am := [2], ftype := "gto_spherical", region := "", exps := ["3.0", "1.0"], coefs := [["0.5", "0.5"], ["0.0", "1.0"]] }

def m1 : Shell String := { good with ftype := "gto" }
def m2 : Shell String := { good with exps := ["3.0", "3.00"] }
def m3 : Shell String := { good with exps := ["3.0", "-1.0"] }
def m4 : Shell String := { good with coefs := [["0.5", "0.5"], ["0.0", "0.0"]] }
def m5 : Shell String := { good with coefs := [["0.5", "0.5"], ["0.5", "0.50"]] }
def m6 : Shell String := { good with coefs := [["0.5", "0.0"], ["1.0", "0.0"]] }

example : [good, m1, m2, m3, m4, m5, m6].map (validateShell numVal)
    = [none, some VErr.needTag, some VErr.dupExp, some VErr.nonposExp, some VErr.zeroCol, some VErr.dupCol, some VErr.unusedPrim] := by
  decide +kernel

def goodPots : List (Pot String) :=
  [{ am := [1], ptype := "scalar_ecp", rexp := [2], gexp := ["1.0"], coefs := [["0.0"]] },
   { am := [0], ptype := "scalar_ecp", rexp := [2, 2], gexp := ["1.0", "2.0"], coefs := [["3.0", "-1.0"]] }]
def p1 : List (Pot String) := goodPots ++ [{ am := [0], ptype := "scalar_ecp", rexp := [2], gexp := ["1.0"], coefs := [["1.0"]] }]
def p2 : List (Pot String) := [{ am := [0], ptype := "scalar_ecp", rexp := [2, 2], gexp := ["1.0", "2.0"], coefs := [["0.0", "0.0"]] }]
def p3 : List (Pot String) := [{ am := [0], ptype := "scalar_ecp", rexp := [2, 2], gexp := ["1.0"], coefs := [["1.0", "2.0"]] }]

/-- the all-zero single-term potential of the highest momentum is accepted (the rule's exception); three mutations are not -/
example : [goodPots, p1, p2, p3].map (validatePots numVal) = [none, some VErr.ecpDupAm, some VErr.ecpZeroCol, some VErr.ecpLen] := by
  decide +kernel

end BSE.Props.C18
