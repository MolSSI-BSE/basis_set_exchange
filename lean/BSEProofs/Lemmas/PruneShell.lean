import BSEModel.Manip
import BSEProofs.Lemmas.MapEx
/-! # `prune_shell` and `prune_basis`

`pruneShell` groups the rows (primitives) of a shell by exponent value, collapses each group to one row and drops the
rows that are zero in every column.  Rows are read through `wPrims`, columns through `colFn`; `pruneShell_kept` is the one
specification of a result `.ok sh'`, and everything else — the contracted functions
are preserved, at the level of columns, of `Shell.funcs` and of `funcSet`, also through `dedup` — follows from it. -/
namespace BSE
variable {ν : Type}

theorem mapE_eq {α β ε : Type} (f : α → Except ε β) (l : List α) : mapE f l = mapEx f l := by
  induction l with
  | nil => rfl
  | cons a as ih => simp only [mapE, mapEx, ih]; rfl

theorem mapE_ok {α β ε : Type} {f : α → Except ε β} {l : List α} {r : List β}
    (h : mapE f l = .ok r) :
    r.length = l.length ∧ ∀ i (h1 : i < l.length) (h2 : i < r.length), f l[i] = .ok r[i] :=
  mapEx_ok (mapE_eq f l ▸ h)

theorem mapE_mem {α β ε : Type} {f : α → Except ε β} {l : List α} {r : List β} (h : mapE f l = .ok r) :
    ∀ y ∈ r, ∃ x ∈ l, f x = .ok y :=
  fun y hy => (mapEx_mem (mapE_eq f l ▸ h) y).1 hy

theorem mapE_map_eq {α β γ ε : Type} {f : α → Except ε β} {l : List α} {r : List β} (g : β → γ) (g' : α → γ)
    (h : mapE f l = .ok r) (hg : ∀ x ∈ l, ∀ y, f x = .ok y → g y = g' x) : r.map g = l.map g' := by
  obtain ⟨hl, hi⟩ := mapE_ok h
  apply List.ext_getElem (by simp [hl])
  intro i h1 h2
  rw [List.getElem_map, List.getElem_map]
  exact hg _ (List.getElem_mem _) _ (hi i (by simpa using h2) (by simpa using h1))

theorem pick_sum (val : ν → Rat) (g : List ν) (c : ν) (h : pick val g = .ok c) :
    val c = (g.map val).sum := by
  rw [← sum_map_filter (fun c => val c != 0) val g fun a _ ha => by simpa using ha]
  unfold pick at h
  split at h
  · next hf =>
    -- no non-zero entry: the first entry is returned, and it is zero like all the others
    cases h
    have := List.filter_eq_nil_iff.1 hf c (by simp)
    simpa [hf] using this
  · next hf => cases h; rw [hf]; exact (Rat.add_zero _).symm
  · cases h

theorem sum_cval_eq (val : ν → Rat) (rs : List (List ν)) (j : Nat) :
    (rs.map fun r => cval val r j).sum = ((rs.filterMap (·[j]?)).map val).sum := by
  induction rs with
  | nil => rfl
  | cons r rs ih =>
    rw [List.map_cons, List.sum_cons, ih, List.filterMap_cons]
    unfold cval
    cases r[j]? with
    | none => exact Rat.zero_add _
    | some c => rfl

/-- a collapsed row carries, in every column, the sum over the group -/
theorem collapse_sum (val : ν → Rat) (rs : List (List ν)) (m : Nat) (hne : rs ≠ [])
    (hr : Rect m rs) (r : List ν) (h : collapse val rs = .ok r) :
    r.length = m ∧ ∀ j, j < m → cval val r j = (rs.map fun r' => cval val r' j).sum := by
  unfold collapse at h
  split at h
  · rename_i r0
    cases h
    exact ⟨hr r (by simp), fun j _ => (Rat.add_zero _).symm⟩
  · rw [zipStar_closed hne hr] at h
    obtain ⟨hlen, hget⟩ := mapE_ok h
    have hlen : r.length = m := by simpa using hlen
    refine ⟨hlen, ?_⟩
    intro j hj
    have hjr : j < r.length := by omega
    have := hget j (by simpa using hj) hjr
    simp only [List.getElem_map, List.getElem_range] at this
    have hp := pick_sum val _ _ this
    rw [sum_cval_eq]
    simp only [cval]
    rw [List.getElem?_eq_getElem hjr]
    simpa using hp

/-! ### a column read off the rows: `colFn_filterMap_rows` is the bridge between `colFn` (columns) and `wPrims` (rows);
the three lemmas behind it are that bridge for the transposed matrix, for kept rows and for `zipStar` of kept rows -/

theorem colFn_filterMap_rows (val : ν → Rat) (x : Rat) (j : Nat) (exps : List ν) (rows : List (List ν))
    (h : ∀ r ∈ rows, j < r.length) :
    colFn val exps (rows.filterMap (·[j]?)) x = wPrims val x j (exps.zip rows) := by
  induction rows generalizing exps with
  | nil => simp [colFn, wPrims]
  | cons r rs ih =>
    cases exps with
    | nil => simp [colFn, wPrims]
    | cons e es =>
      have hr : j < r.length := h r (by simp)
      have := ih es fun r' hr' => h r' (by simp [hr'])
      simp only [colFn, wPrims] at this
      simp only [colFn, wPrims, cval, List.filterMap_cons, List.getElem?_eq_getElem hr, List.zip_cons_cons,
        List.map_cons, List.sum_cons, Option.map_some, Option.getD_some, this]

/-- column semantics read off the transposed (row) representation -/
theorem wPrims_zipStarAux (val : ν → Rat) (x : Rat) (j : Nat) :
    ∀ (n : Nat) (exps : List ν) (cols : List (List ν)), exps.length = n → Rect n cols → cols ≠ [] →
      j < cols.length →
      wPrims val x j (exps.zip (zipStarAux n cols)) = colFn val exps (cols[j]?.getD []) x := by
  intro n exps cols _ hr hne hj
  rw [← zipStar_eq_aux hne hr, ← colFn_filterMap_rows val x j exps _ fun r h => (zipStar_shape hne hr).2 r h ▸ hj,
    zipStar_col hne hr j hj, List.getElem?_eq_getElem hj, Option.getD_some]

/-- reading the pruned rows back as columns -/
theorem colFn_of_rows (val : ν → Rat) (x : Rat) (j : Nat) (kept : List (ν × List ν)) :
    colFn val (kept.map (·.1)) ((kept.map (·.2)).filterMap (·[j]?)) x
      = (kept.map fun p => if val p.1 = x then ((p.2[j]?).map val).getD 0 else 0).sum
        ∨ ∃ p ∈ kept, p.2.length ≤ j := by
  by_cases h : ∃ p ∈ kept, p.2.length ≤ j
  · exact Or.inr h
  · left
    have hlong : ∀ r ∈ kept.map (·.2), j < r.length := by
      intro r hr
      obtain ⟨p, hp, rfl⟩ := List.mem_map.1 hr
      exact Nat.lt_of_not_le fun hle => h ⟨p, hp, hle⟩
    rw [colFn_filterMap_rows val x j _ _ hlong, ← List.zip_of_prod rfl rfl]
    rfl

theorem colFn_zipStar_rows (val : ν → Rat) (x : Rat) (j m : Nat) (hj : j < m) (kept : List (ν × List ν))
    (hr : Rect m (kept.map (·.2))) :
    colFn val (kept.map (·.1)) ((zipStar (kept.map (·.2)))[j]?.getD []) x = wPrims val x j kept := by
  cases kept with
  | nil => simp [zipStar, zipStarAux, colFn, wPrims]
  | cons p ps =>
    rw [zipStar_closed (by simp) hr, List.getElem?_map, List.getElem?_range hj, Option.map_some, Option.getD_some,
      colFn_filterMap_rows val x j _ _ fun r h => hr r h ▸ hj, ← List.zip_of_prod rfl rfl]

theorem collapseG_ok {val : ν → Rat} {g : ν × List (List ν)} {p : ν × List ν} (h : collapseG val g = .ok p) :
    p.1 = g.1 ∧ collapse val g.2 = .ok p.2 := by
  unfold collapseG at h
  cases hc : collapse val g.2 with
  | error e => simp [hc] at h
  | ok r => simp only [hc] at h; cases h; exact ⟨rfl, rfl⟩

/-- collapsing every group keeps all column sums -/
theorem wPrims_merged (val : ν → Rat) (x : Rat) (j m : Nat) (hj : j < m)
    (gs : List (ν × List (List ν))) (merged : List (ν × List ν))
    (hgs : ∀ g ∈ gs, g.2 ≠ [] ∧ ∀ r ∈ g.2, r.length = m)
    (h : mapE (collapseG val) gs = .ok merged) :
    wPrims val x j merged = wGroups val x j gs ∧ merged.map (·.1) = gs.map (·.1)
      ∧ ∀ p ∈ merged, p.2.length = m := by
  refine ⟨congrArg List.sum (mapE_map_eq _ _ h fun g hg p hp => ?_),
    mapE_map_eq _ _ h fun g _ p hp => (collapseG_ok hp).1, fun p hp => ?_⟩
  · obtain ⟨h1, h2⟩ := collapseG_ok hp
    rw [h1, (collapse_sum val g.2 m (hgs g hg).1 (hgs g hg).2 p.2 h2).2 j hj]
  · obtain ⟨g, hg, hp⟩ := mapE_mem h p hp
    exact (collapse_sum val g.2 m (hgs g hg).1 (hgs g hg).2 p.2 (collapseG_ok hp).2).1

theorem wPrims_filter (val : ν → Rat) (x : Rat) (j : Nat) (ps : List (ν × List ν)) :
    wPrims val x j (ps.filter (notAllZero val)) = wPrims val x j ps := by
  refine sum_map_filter _ _ ps fun p _ hp => ?_
  have hz : cval val p.2 j = 0 := by
    have hp : ∀ c ∈ p.2, val c = 0 := by simpa [notAllZero] using hp
    unfold cval
    cases hj : p.2[j]? with
    | none => rfl
    | some c => exact hp c (List.mem_of_getElem? hj)
  rw [hz]
  exact ite_self 0

theorem pruneShell_kept (val : ν → Rat) (sh sh' : Shell ν) (h : pruneShell val sh = .ok sh') :
    ∃ kept : List (ν × List ν),
      sh' = { sh with exps := kept.map (·.1), coefs := zipStar (kept.map (·.2)) }
      ∧ (∀ p ∈ kept, notAllZero val p = true ∧ p.1 ∈ sh.exps)
      ∧ (kept.map (·.1)).Pairwise (fun a b => val a ≠ val b)
      ∧ (RectShell sh → sh.coefs ≠ [] →
          Rect sh.coefs.length (kept.map (·.2)) ∧
          ∀ x j, j < sh.coefs.length → wPrims val x j kept = colFn val sh.exps (sh.coefs[j]?.getD []) x) := by
  unfold pruneShell at h
  simp only at h
  split at h
  · cases h
  · cases hm : mapE (collapseG val) (groupRows val (sh.exps.zip (zipStar sh.coefs))) with
    | error e => simp [hm] at h
    | ok merged =>
      simp only [hm] at h
      cases h
      have hfst : merged.map (·.1) = (groupRows val (sh.exps.zip (zipStar sh.coefs))).map (·.1) :=
        mapE_map_eq _ _ hm fun g _ p hp => (collapseG_ok hp).1
      have hgs := groupRows_mem val (sh.exps.zip (zipStar sh.coefs))
      refine ⟨merged.filter (notAllZero val), rfl, fun p hp => ⟨(List.mem_filter.1 hp).2, ?_⟩, ?_, fun hr hne => ?_⟩
      · have : p.1 ∈ merged.map (·.1) := List.mem_map.2 ⟨p, (List.mem_filter.1 hp).1, rfl⟩
        obtain ⟨g, hg, he⟩ := List.mem_map.1 (hfst ▸ this)
        obtain ⟨r, hq⟩ := (hgs g hg).1
        exact he ▸ (List.of_mem_zip hq).1
      · refine List.Pairwise.sublist (List.Sublist.map _ List.filter_sublist) ?_
        rw [hfst]
        exact List.pairwise_map.2 (groupRows_distinct val _)
      · have hg : ∀ g ∈ groupRows val (sh.exps.zip (zipStar sh.coefs)), g.2 ≠ [] ∧ ∀ r ∈ g.2, r.length = sh.coefs.length :=
          fun g hg => ⟨(hgs g hg).2.1, fun r hrg =>
            let ⟨_, he⟩ := (hgs g hg).2.2 r hrg
            (zipStar_shape hne hr).2 r (List.of_mem_zip he).2⟩
        refine ⟨fun r hr => ?_, fun x j hj => ?_⟩
        · obtain ⟨p, hp, rfl⟩ := List.mem_map.1 hr
          exact (wPrims_merged val 0 0 _ (List.length_pos_iff.2 hne) _ merged hg hm).2.2 p (List.mem_filter.1 hp).1
        · -- kept rows ← all merged rows ← the groups ← the rows of the input ← its columns: the column sum survives each step
          rw [wPrims_filter, (wPrims_merged val x j _ hj _ merged hg hm).1, wGroups_groupRows, zipStar_eq_aux hne hr,
            wPrims_zipStarAux val x j _ sh.exps sh.coefs rfl hr hne hj]

theorem pruneShell_am (val : ν → Rat) (sh sh' : Shell ν) (h : pruneShell val sh = .ok sh') : sh'.am = sh.am := by
  obtain ⟨_, rfl, _⟩ := pruneShell_kept val sh sh' h
  rfl

/-- **prune_shell preserves every contracted function.** -/
theorem pruneShell_colFn (val : ν → Rat) (sh sh' : Shell ν) (n : Nat)
    (hn : sh.exps.length = n) (hr : Rect n sh.coefs) (hne : sh.coefs ≠ [])
    (h : pruneShell val sh = .ok sh') (j : Nat) (hj : j < sh.coefs.length) (x : Rat) :
    colFn val sh'.exps (sh'.coefs[j]?.getD []) x = colFn val sh.exps (sh.coefs[j]?.getD []) x := by
  subst hn
  obtain ⟨kept, rfl, _, _, hR⟩ := pruneShell_kept val sh sh' h
  obtain ⟨hw, hfn⟩ := hR hr hne
  rw [← hfn x j hj]
  exact colFn_zipStar_rows val x j _ hj kept hw

theorem pruneShell_rect (val : ν → Rat) (sh sh' : Shell ν) (hr : RectShell sh) (hne : sh.coefs ≠ [])
    (h : pruneShell val sh = .ok sh') (hkeep : sh'.exps ≠ []) : sh'.coefs.length = sh.coefs.length ∧ RectShell sh' := by
  obtain ⟨kept, rfl, _, _, hR⟩ := pruneShell_kept val sh sh' h
  have hs := zipStar_shape (by simpa using hkeep) (hR hr hne).1
  exact ⟨hs.1, fun c hc => by simpa using hs.2 c hc⟩

theorem pruneShell_colFns (val : ν → Rat) (sh sh' : Shell ν) (hr : RectShell sh) (hne : sh.coefs ≠ [])
    (h : pruneShell val sh = .ok sh') (hkeep : sh'.exps ≠ []) :
    sh'.coefs.map (colFn val sh'.exps) = sh.coefs.map (colFn val sh.exps) := by
  have hlen := (pruneShell_rect val sh sh' hr hne h hkeep).1
  refine List.ext_getElem (by simp [hlen]) fun j _ h2 => ?_
  have hj : j < sh.coefs.length := by simpa using h2
  funext x
  simpa [List.getElem?_eq_getElem hj, List.getElem?_eq_getElem (hlen ▸ hj)] using
    pruneShell_colFn val sh sh' _ rfl hr hne h j hj x

/-- the contracted functions of a pruned shell, as a list, unless the shell vanished -/
theorem pruneShell_funcs (val : ν → Rat) (sh sh' : Shell ν) (n : Nat)
    (hn : sh.exps.length = n) (hr : Rect n sh.coefs) (hne : sh.coefs ≠ [])
    (h : pruneShell val sh = .ok sh') (hkeep : sh'.exps ≠ []) :
    sh'.funcs val = sh.funcs val := by
  subst hn
  exact Shell.funcs_congr val (pruneShell_am val sh sh' h) (pruneShell_colFns val sh sh' hr hne h hkeep)

theorem dedup_eq [DecidableEq ν] (acc l : List (Shell ν)) :
    ∃ t, dedup acc l = acc ++ t ∧ t.Sublist l ∧ t.Nodup ∧ ∀ s, s ∈ t ↔ s ∈ l ∧ s ∉ acc := by
  induction l generalizing acc with
  | nil => exact ⟨[], by simp [dedup]⟩
  | cons a as ih =>
    unfold dedup
    split
    · next hin =>
      obtain ⟨t, ht, hs, hn, hm⟩ := ih acc
      refine ⟨t, ht, hs.cons a, hn, fun s => ?_⟩
      rw [hm, List.mem_cons]
      constructor
      · rintro ⟨has, hacc⟩
        exact ⟨Or.inr has, hacc⟩
      · rintro ⟨rfl | has, hacc⟩
        · exact absurd hin hacc
        · exact ⟨has, hacc⟩
    · next hin =>
      obtain ⟨t, ht, hs, hn, hm⟩ := ih (acc ++ [a])
      refine ⟨a :: t, by rw [ht, List.append_assoc]; rfl, hs.cons_cons a,
        List.nodup_cons.2 ⟨fun h => ((hm a).1 h).2 (by simp), hn⟩, fun s => ?_⟩
      rw [List.mem_cons, hm, List.mem_cons, List.mem_append, List.mem_singleton]
      by_cases hsa : s = a <;> simp [hsa, hin]

theorem dedup_nil [DecidableEq ν] (l : List (Shell ν)) :
    (dedup [] l).Sublist l ∧ (dedup [] l).Nodup ∧ ∀ s, s ∈ dedup [] l ↔ s ∈ l := by
  obtain ⟨t, ht, hs, hn, hm⟩ := dedup_eq [] l
  rw [ht]
  exact ⟨hs, hn, by simpa using hm⟩

theorem pruneShells_ok [DecidableEq ν] {val : ν → Rat} {shells out : List (Shell ν)} (h : pruneShells val shells = .ok out) :
    ∃ ss, mapE (pruneShell val) shells = .ok ss ∧ out = dedup [] ss := by
  unfold pruneShells at h
  cases hm : mapE (pruneShell val) shells with
  | error e => simp [hm] at h
  | ok ss => simp only [hm] at h; cases h; exact ⟨ss, rfl, rfl⟩

theorem mem_pruneShells [DecidableEq ν] (val : ν → Rat) (shells out : List (Shell ν))
    (h : pruneShells val shells = .ok out) (s : Shell ν) (hs : s ∈ out) :
    ∃ sh ∈ shells, pruneShell val sh = .ok s := by
  obtain ⟨ss, hm, rfl⟩ := pruneShells_ok h
  exact mapE_mem hm s (((dedup_nil ss).2.2 s).1 hs)

theorem funcSet_dedup [DecidableEq ν] (val : ν → Rat) (l : List (Shell ν)) (f : Func) :
    funcSet val (dedup [] l) f ↔ funcSet val l f := by
  simp only [funcSet, (dedup_nil l).2.2]

end BSE
