import BSEModel.MakeGeneral
/-! Executable canonical form of contracted functions and the *verified checker* `sameFuncs`:
`sameFuncs val a b = true → ∀ f, funcSet val a f ↔ funcSet val b f`.
The driver evaluates `sameFuncs` on the implementation's input and output. -/
namespace BSE
variable {ν : Type}

/-- support points of a column: per distinct exponent value the summed coefficient, zeros dropped -/
def colPoints (val : ν → Rat) (exps col : List ν) : List (Rat × Rat) :=
  ((dedupKeys (exps.map val)).map fun x => (x, colFn val exps col x)).filter (fun p => p.2 != 0)

def pointsEq (a b : List (Rat × Rat)) : Bool := a.all (b.contains ·) && b.all (a.contains ·)

def Shell.canon (val : ν → Rat) (sh : Shell ν) : List (Nat × List (Rat × Rat)) :=
  sh.amCols.map (fun p => (p.1, colPoints val sh.exps p.2))

def canonFuncs (val : ν → Rat) (shells : List (Shell ν)) : List (Nat × List (Rat × Rat)) :=
  shells.flatMap (·.canon val)

def subFuncs (a b : List (Nat × List (Rat × Rat))) : Bool :=
  a.all fun f => b.any fun g => f.1 == g.1 && pointsEq f.2 g.2

/-- the checker -/
def sameFuncs (val : ν → Rat) (a b : List (Shell ν)) : Bool :=
  subFuncs (canonFuncs val a) (canonFuncs val b) && subFuncs (canonFuncs val b) (canonFuncs val a)

theorem mem_colPoints (val : ν → Rat) (exps col : List ν) (x y : Rat) :
    (x, y) ∈ colPoints val exps col ↔ (y = colFn val exps col x ∧ y ≠ 0 ∧ x ∈ exps.map val) := by
  unfold colPoints
  simp only [List.mem_filter, List.mem_map, mem_dedupKeys]
  constructor
  · rintro ⟨⟨x', hx', heq⟩, hne⟩
    simp only [Prod.mk.injEq] at heq
    obtain ⟨rfl, rfl⟩ := heq
    refine ⟨rfl, by simpa using hne, ?_⟩
    simpa using hx'
  · rintro ⟨rfl, hne, hx⟩
    exact ⟨⟨x, by simpa using hx, rfl⟩, by simpa using hne⟩

theorem colFn_eq_of_pointsEq (val : ν → Rat) (e1 c1 e2 c2 : List ν)
    (h : pointsEq (colPoints val e1 c1) (colPoints val e2 c2) = true) :
    colFn val e1 c1 = colFn val e2 c2 := by
  simp only [pointsEq, Bool.and_eq_true, List.all_eq_true, List.contains_iff_mem] at h
  -- where a function is not zero it has a support point, which is then a support point of the other
  have key : ∀ e c e' c', (∀ p ∈ colPoints val e c, p ∈ colPoints val e' c') → ∀ x, colFn val e c x ≠ 0 →
      colFn val e c x = colFn val e' c' x := by
    intro e c e' c' hsub x hx
    have hmem : x ∈ e.map val := Classical.byContradiction fun hn => hx (colFn_zero_of_not_mem val e c x hn)
    have hpt : (x, colFn val e c x) ∈ colPoints val e c := (mem_colPoints val e c x _).2 ⟨rfl, hx, hmem⟩
    exact ((mem_colPoints val e' c' x _).1 (hsub _ hpt)).1
  funext x
  by_cases ha : colFn val e1 c1 x = 0
  · by_cases hb : colFn val e2 c2 x = 0
    · rw [ha, hb]
    · exact (key e2 c2 e1 c1 h.2 x hb).symm
  · exact key e1 c1 e2 c2 h.1 x ha

theorem funcSet_of_subFuncs (val : ν → Rat) (a b : List (Shell ν))
    (h : subFuncs (canonFuncs val a) (canonFuncs val b) = true) (f : Func) :
    funcSet val a f → funcSet val b f := by
  rintro ⟨sh, hsh, hf⟩
  rw [Shell.funcs_eq] at hf
  obtain ⟨p, hp, rfl⟩ := List.mem_map.1 hf
  simp only [subFuncs, List.all_eq_true, List.any_eq_true, Bool.and_eq_true, beq_iff_eq] at h
  have hin : (p.1, colPoints val sh.exps p.2) ∈ canonFuncs val a := by
    unfold canonFuncs
    exact List.mem_flatMap.2 ⟨sh, hsh, List.mem_map.2 ⟨p, hp, rfl⟩⟩
  obtain ⟨g, hg, hl, hpts⟩ := h _ hin
  unfold canonFuncs at hg
  obtain ⟨sh', hsh', hg'⟩ := List.mem_flatMap.1 hg
  obtain ⟨q, hq, rfl⟩ := List.mem_map.1 hg'
  refine ⟨sh', hsh', ?_⟩
  rw [Shell.funcs_eq]
  refine List.mem_map.2 ⟨q, hq, ?_⟩
  simp only at hl hpts
  rw [colFn_eq_of_pointsEq val _ _ _ _ hpts, hl]

theorem sameFuncs_sound (val : ν → Rat) (a b : List (Shell ν)) (h : sameFuncs val a b = true) (f : Func) :
    funcSet val a f ↔ funcSet val b f := by
  simp only [sameFuncs, Bool.and_eq_true] at h
  exact ⟨funcSet_of_subFuncs val a b h.1 f, funcSet_of_subFuncs val b a h.2 f⟩

end BSE
