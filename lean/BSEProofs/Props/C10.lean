import BSEModel.Own
import BSEGen.Own
import BSEGen.Writers
import BSEGen.Manip
import BSEGen.OwnSkel
import BSEProofs.Lemmas.HeapSound
/-! # C10 — library functions never modify the caller's data

Two parts.  The `use_copy` discipline: (1) in the ownership model, a pipeline whose first step
copies never writes to the caller's object and returns a private object, whatever the later steps
do; (2) every writer pipeline of the source has that shape; (3) every `use_copy` function of
manip.py / sort.py starts by copying (or by delegating to one that does).  The statements are over
call sites and guards regenerated from the source on every run.  What this leaves open, aliasing inside
the function bodies, is the second part (further down): the heap-level ownership check on skeletons of the
bodies.  That the skeletons are faithful is trusted, and cross-checked by the dynamic twin in the harness. -/
namespace BSE.Props.C10
open BSE.Own

theorem run_fresh (steps : List PStep) : run steps .fresh = (.fresh, false) := by
  induction steps with
  | nil => rfl
  | cons st rest ih =>
    unfold run step
    by_cases h : st.useCopy = true <;> simp [h, ih]

/-- **if the first step copies, the caller's object is never written to and the result is private** -/
theorem first_copy_protects (st : PStep) (rest : List PStep) (h : st.useCopy = true) :
    run (st :: rest) .caller = (.fresh, false) := by
  unfold run step
  simp only [h, if_true, run_fresh]
  rfl

/-- conversely a pipeline that starts in place does write to the caller's object -/
theorem first_inplace_mutates (st : PStep) (rest : List PStep) (h : st.useCopy = false) :
    (run (st :: rest) .caller).2 = true := by
  unfold run step
  simp [h]

/-- **every writer of the source normalises a private copy**: for each of the formats its pipeline is
empty (the writer only reads) or never writes to the caller's basis -/
theorem writers_protect_caller :
    ∀ p ∈ BSE.Gen.Writers.pipelines, p.2 = [] ∨ run p.2 .caller = (.fresh, false) := by decide

/-- the formats whose writer does not normalise at all (they must only read: checked dynamically) -/
theorem read_only_writers :
    (BSE.Gen.Writers.pipelines.filter (fun p => p.2.isEmpty)).map (·.1) = ["orca", "bsedebug", "json"] := rfl

/-- **every `use_copy` function guards its argument first** (deep copy at entry, delegation to a
function that copies, or — merge_element_data — a shallow copy plus private copies of the lists it extends),
and `use_copy` defaults to True everywhere -/
theorem use_copy_functions_guarded :
    ∀ f ∈ BSE.Gen.Own.useCopyFns, (f.2.2.1 = "deepcopy" ∨ f.2.2.1 = "delegates" ∨ f.2.2.1 = "shallow_plus_lists") ∧ f.2.2.2 = "True" := by
  decide

/-- the in-place calls (`use_copy = False`) made by other public modules are the ones of `get_basis`
(on its private composed copy) and of `convert_formatted_basis_file` (on the dictionary it has just read) -/
theorem inplace_call_sites :
    ((BSE.Gen.Own.callSites.filter (fun c => c.2.2 == "False")).map (·.1)).eraseDups
      = ["convert.convert_formatted_basis_file", "api.get_basis"] := by decide +kernel

/-- inner calls of the manipulation functions act in place on the copy made at entry -/
theorem inner_calls_in_place :
    (BSE.Gen.Manip.makeGeneralCalls ++ BSE.Gen.Manip.optimizeGeneralCalls ++ BSE.Gen.Manip.uncontractGeneralCalls
      ++ BSE.Gen.Manip.removeFreeCalls).all (fun c => !c.useCopy) = true
      ∧ BSE.Gen.Manip.augmentCalls.all (·.useCopy) = true := by decide

example : run [⟨.uncontractGeneral, true⟩, ⟨.uncontractSpdf 1, false⟩, ⟨.sortBasis, false⟩] .caller = (.fresh, false)
    ∧ (run [⟨.optimizeGeneral, false⟩, ⟨.uncontractGeneral, false⟩] .caller).2 = true := by decide

end BSE.Props.C10

/-! ## Function bodies: the heap-level ownership check

`BSEGen/OwnSkel.lean` holds, regenerated from the source on every run, the effect skeleton of every
in-scope function (manip, sort, the writer of every format, curate.compare, curate.diff, the validator
and the reference converter; callees inlined, `use_copy` at its default).  `BSEModel/Heap.lean` gives
the skeleton language a heap semantics and an abstract ownership check; the theorems below say that an
accepted skeleton cannot write to a container of the caller nor return anything from which one can be
reached — along every execution — and that every skeleton of the current source but one (`beyondTheAbstraction`) is accepted. -/
namespace BSE.Props.C10
open BSE.Heap

/-- **an accepted body is safe along every execution**: whatever branches are taken, however often
the loops run and whichever members are picked, (1) every container that existed before the call has
exactly the members it had, (2) no such container was written to at all, (3) from no returned value
can such a container be reached (at the moment of the return). -/
theorem accepted_is_safe (k : Skel) (hk : k.accepted = true)
    (n0 : Node) (h0 : Node → List Node) (hown : ∀ n, n < n0 → ∀ m ∈ h0 n, m < n0)
    (st st' : St) (hi : Init n0 h0 k.params st) (hex : Exec st k.body st') :
    (∀ n, n < n0 → st'.heap n = h0 n) ∧ (∀ n ∈ st'.muts, n0 ≤ n) ∧
    (∀ p ∈ st'.rets, ∀ o, o < n0 → ¬ Reach p.2 p.1 o) := by
  obtain ⟨a', hc⟩ := Option.isSome_iff_exists.1 hk
  have := exec_sound hex _ _ hc (init_inv hown hi)
  exact ⟨this.owned_same, this.muts_ok, this.rets_ok⟩

/-- the check refuses a body that writes to its argument (`f`), one that hands a member of it back (`g`) and one that
returns a new container filled with its members (`i`); it accepts the same writes made to a deep copy (`h`) -/
example : (Skel.mk "f" [0] (.store 0 [])).accepted = false
    ∧ (Skel.mk "g" [0] (.seq (.sub 1 0) (.ret 1))).accepted = false
    ∧ (Skel.mk "h" [0] (.seq (.deepcopy 0 0) (.seq (.sub 1 0) (.seq (.store 1 []) (.ret 0))))).accepted = true
    ∧ (Skel.mk "i" [0] (.seq (.derive 1 []) (.seq (.loop (.seq (.sub 2 0) (.store 1 [2]))) (.ret 1)))).accepted = false := by decide

/-- the hypotheses of `accepted_is_safe` are satisfiable: a caller heap with two nested containers -/
example : ∃ st : St, Init 2 (fun n => if n = 0 then [1] else []) [0] st :=
  ⟨{ heap := fun n => if n = 0 then [1] else [], next := 3, env := fun v => if v = 0 then 0 else 2, muts := [], rets := [] },
   ⟨rfl, fun n hn => rfl, by simp, by intro v hv; simp at hv; simp [hv], by intro v hv; simp at hv; simp [hv], rfl, rfl⟩⟩

/-- Bodies whose safety rests on a fact the two-bit abstraction cannot express.  `sort_basis_dict` builds its result from
the *members* of its argument and then replaces every member that is a dict or a list by a private copy; that "every
container-valued member is replaced" is a property of the values, not of the shape of the body.  It is covered by the dynamic
twin only (identity-disjointness of result and argument on every explored input). -/
def beyondTheAbstraction : List String := ["sort.sort_basis_dict"]

/-! `check` in a form the kernel evaluates at less than half the price on the generated bodies.  The kernel passes
arguments on unevaluated: after a hundred assignments the abstract state is a hundred nested `Abs.set`, and every
test of a bit walks that term again (the work grows with the square of the length of a body).  A `match` does
evaluate what it inspects, so `forcedAbs` hands on a state whose masks are numerals.  The recursor is applied
directly because a definition by pattern matching unfolds through `Stmt.brecOn`, which adds half as much again to
the price of the whole run; that is why `checkK` cannot be compiled, and `check` stays the one that is run. -/

def forcedNat {α : Type} (n : Nat) (k : Nat → α) : α :=
  match n with
  | 0 => k 0
  | m + 1 => k (m + 1)

def forcedAbs {α : Type} (a : Abs) (k : Abs → α) : α :=
  match a with
  | ⟨pt, rc, true⟩ => forcedNat pt fun pt => forcedNat rc fun rc => k ⟨pt, rc, true⟩
  | ⟨pt, rc, false⟩ => forcedNat pt fun pt => forcedNat rc fun rc => k ⟨pt, rc, false⟩

theorem forcedNat_eq {α : Type} (n : Nat) (k : Nat → α) : forcedNat n k = k n := by
  cases n <;> rfl

theorem forcedAbs_eq {α : Type} (a : Abs) (k : Abs → α) : forcedAbs a k = k a := by
  obtain ⟨pt, rc, neg⟩ := a
  cases neg <;> simp only [forcedAbs, forcedNat_eq]

/-- the cases of `check`, with the state forced where it is handed from one statement to the next -/
noncomputable def checkK (s : Stmt) : Abs → Option Abs :=
  Stmt.rec (motive := fun _ => Abs → Option Abs)
    (fun a => some a)
    (fun x _ a => some (a.set x false false))
    (fun x ys a => some (a.set x false (ys.any a.rcB)))
    (fun x y a => some (a.set x (a.ptB y) (a.rcB y)))
    (fun x y a => some (a.set x (a.rcB y) (a.rcB y)))
    (fun x ys a => if a.ptB x then none else if ys.any a.rcB then some a.taintAll else some a)
    (fun x a => if a.rcB x then none else some a)
    (fun _ _ cs ct a => match cs a with
      | none => none
      | some b => forcedAbs b ct)
    (fun _ _ cs ct a => match cs a, ct a with
      | some b, some c => some (b.join c)
      | _, _ => none)
    (fun _ cs a => iter (fun a => forcedAbs a cs) loopFuel a)
    s

theorem checkK_eq (s : Stmt) : checkK s = check s := by
  induction s with
  | seq s t hs ht =>
    funext a
    show (match checkK s a with | none => none | some b => forcedAbs b (checkK t)) = check (.seq s t) a
    rw [hs, ht, check]
    cases check s a with
    | none => rfl
    | some b => exact forcedAbs_eq b _
  | choice s t hs ht =>
    funext a
    show (match checkK s a, checkK t a with | some b, some c => some (b.join c) | _, _ => none) = check (.choice s t) a
    rw [hs, ht, check]
    rfl
  | loop s hs =>
    funext a
    show iter (fun a => forcedAbs a (checkK s)) loopFuel a = check (.loop s) a
    rw [funext fun a => forcedAbs_eq a (checkK s), hs, check]
  | _ => rfl

/-- **every in-scope function body of the current source passes the ownership check** (all but the one named above) -/
theorem all_skeletons_accepted :
    ∀ k ∈ BSE.Gen.OwnSkel.all, k.name ∉ beyondTheAbstraction → k.accepted = true := by
  have h : ∀ k ∈ BSE.Gen.OwnSkel.all, k.name ∉ beyondTheAbstraction → (checkK k.body (Abs.init k.params)).isSome = true := by
    decide +kernel
  intro k hk hn
  rw [Skel.accepted, ← checkK_eq]
  exact h k hk hn

/-- the excluded body is really refused (so the exclusion is not hiding an accepted one), and it is in the list -/
theorem excluded_is_refused :
    (BSE.Gen.OwnSkel.all.filter (fun k => decide (k.name ∈ beyondTheAbstraction))).map (fun k => (k.name, k.accepted))
      = [("sort.sort_basis_dict", false)] := by decide +kernel

/-- the skeleton list is not empty and covers the writer of every format -/
theorem skeletons_cover_writers :
    BSE.Gen.Writers.pipelines.length ≤ (BSE.Gen.OwnSkel.all.filter (fun k => k.name.startsWith "writers.")).length := by decide +kernel

end BSE.Props.C10
