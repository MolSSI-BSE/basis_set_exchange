import BSEModel.Matrix
/-! `manip.py: prune_shell` on one shell whose numerals `ν` are read through `val : ν → Rat`, and `colFn`, the
contracted function a coefficient column stands for. -/
namespace BSE

variable {ν : Type}

structure Shell (ν : Type) where
  am : List Nat
  ftype : String
  region : String
  exps : List ν
  coefs : List (List ν)

/-- rectangular: every column as long as the exponent list -/
def RectShell (sh : Shell ν) : Prop := ∀ c ∈ sh.coefs, c.length = sh.exps.length

/-- group rows by value-equal exponent, first-occurrence order (the double loop of prune_shell) -/
def insertGroup (val : ν → Rat) (e : ν) (row : List ν) :
    List (ν × List (List ν)) → List (ν × List (List ν))
  | [] => [(e, [row])]
  | (e0, rows) :: gs =>
    if val e = val e0 then (e0, rows ++ [row]) :: gs
    else (e0, rows) :: insertGroup val e row gs

def groupRows (val : ν → Rat) (prims : List (ν × List ν)) : List (ν × List (List ν)) :=
  prims.foldl (fun gs p => insertGroup val p.1 p.2 gs) []

/-- `mapM` in `Except`, structurally recursive so that it unfolds in proofs -/
def mapE {α β ε : Type} (f : α → Except ε β) : List α → Except ε (List β)
  | [] => .ok []
  | a :: as =>
    match f a with
    | .error e => .error e
    | .ok b =>
      match mapE f as with
      | .error e => .error e
      | .ok bs => .ok (b :: bs)

/-- the inner loop of `prune_shell` over one column of a group of duplicated exponents: the one non-zero coefficient, the
first coefficient if all are zero, and a refusal if two are non-zero -/
def pick (val : ν → Rat) (g : List ν) : Except String ν :=
  match g.filter (fun c => val c != 0), g with
  | [], c :: _ => .ok c
  | [c], _ => .ok c
  | _, _ => .error "Exponent is duplicated within a contraction"

/-- one output row for a group of duplicated exponents -/
def collapse (val : ν → Rat) (rows : List (List ν)) : Except String (List ν) :=
  match rows with
  | [r] => .ok r
  | _ => mapE (pick val) (zipStar rows)

def collapseG (val : ν → Rat) (g : ν × List (List ν)) : Except String (ν × List ν) :=
  match collapse val g.2 with
  | .error e => .error e
  | .ok r => .ok (g.1, r)

def notAllZero (val : ν → Rat) (p : ν × List ν) : Bool := !(p.2.all (fun c => val c == 0))

theorem notAllZero_iff (val : ν → Rat) (p : ν × List ν) : notAllZero val p = true ↔ ∃ c ∈ p.2, val c ≠ 0 := by
  simp [notAllZero]

def pruneShell (val : ν → Rat) (sh : Shell ν) : Except String (Shell ν) :=
  let rows := zipStar sh.coefs
  if rows.length < sh.exps.length then .error "IndexError" else
  match mapE (collapseG val) (groupRows val (sh.exps.zip rows)) with
  | .error e => .error e
  | .ok merged =>
    let kept := merged.filter (notAllZero val)
    .ok { sh with exps := kept.map (·.1), coefs := zipStar (kept.map (·.2)) }

/-- coefficient `j` of a row as a rational (missing = 0) -/
def cval (val : ν → Rat) (r : List ν) (j : Nat) : Rat := (r[j]?.map val).getD 0

/-- the contracted function of one column: exponent value ↦ summed coefficient -/
def colFn (val : ν → Rat) (exps col : List ν) (x : Rat) : Rat :=
  ((exps.zip col).map fun p => if val p.1 = x then val p.2 else 0).sum

theorem colFn_nil_left (val : ν → Rat) (c : List ν) (x : Rat) : colFn val [] c x = 0 := by
  simp [colFn]

theorem colFn_cons_cons (val : ν → Rat) (e c : ν) (es cs : List ν) (x : Rat) :
    colFn val (e :: es) (c :: cs) x = (if val e = x then val c else 0) + colFn val es cs x := rfl

theorem sum_map_filter {α : Type} (p : α → Bool) (f : α → Rat) (l : List α) (h : ∀ a ∈ l, p a = false → f a = 0) :
    ((l.filter p).map f).sum = (l.map f).sum := by
  induction l with
  | nil => rfl
  | cons a as ih =>
    have ih := ih fun b hb => h b (List.mem_cons_of_mem a hb)
    cases hp : p a with
    | true => rw [List.filter_cons_of_pos hp, List.map_cons, List.sum_cons, ih]; rfl
    | false => rw [List.filter_cons_of_neg (by simp [hp]), ih, List.map_cons, List.sum_cons, h a (by simp) hp, Rat.zero_add]

theorem sum_map_zero {α : Type} (f : α → Rat) (l : List α) (h : ∀ a ∈ l, f a = 0) : (l.map f).sum = 0 := by
  induction l with
  | nil => rfl
  | cons a as ih => rw [List.map_cons, List.sum_cons, h a (by simp), ih fun b hb => h b (by simp [hb]), Rat.add_zero]

theorem colFn_zero_of_allZero (val : ν → Rat) (exps col : List ν) (h : ∀ c ∈ col, val c = 0) (x : Rat) :
    colFn val exps col x = 0 :=
  sum_map_zero _ _ fun p hp => by rw [h p.2 (List.of_mem_zip hp).2]; exact ite_self 0

theorem colFn_zero_of_not_mem (val : ν → Rat) (exps col : List ν) (x : Rat) (h : x ∉ exps.map val) :
    colFn val exps col x = 0 :=
  sum_map_zero _ _ fun p hp => if_neg fun hx : val p.1 = x => h (hx ▸ List.mem_map_of_mem (List.of_mem_zip hp).1)

theorem colFn_at_distinct (val : ν → Rat) (exps col : List ν) (hd : exps.Pairwise (fun a b => val a ≠ val b))
    (i : Nat) (hi : i < exps.length) (hc : i < col.length) :
    colFn val exps col (val exps[i]) = val col[i] := by
  induction exps generalizing col i with
  | nil => simp at hi
  | cons e es ih =>
    cases col with
    | nil => simp at hc
    | cons c cs =>
      obtain ⟨hhead, htail⟩ := List.pairwise_cons.1 hd
      rw [colFn_cons_cons]
      cases i with
      | zero =>
        rw [List.getElem_cons_zero, List.getElem_cons_zero, if_pos rfl, colFn_zero_of_not_mem val es cs _ fun h => ?_,
          Rat.add_zero]
        obtain ⟨e', he', heq⟩ := List.mem_map.1 h
        exact hhead e' he' heq.symm
      | succ k =>
        simp only [List.getElem_cons_succ]
        rw [if_neg (hhead _ (List.getElem_mem _)), ih cs htail k (by simpa using hi) (by simpa using hc), Rat.zero_add]

/-- `colFn` of column `j` at `x`, read off rows `(exponent, coefficients of that primitive)` instead of a column; `wGroups` is the
same for rows grouped under a representative exponent.  `prune_shell` works on rows, so its proof is an equation chain in these two. -/
def wPrims (val : ν → Rat) (x : Rat) (j : Nat) (ps : List (ν × List ν)) : Rat :=
  (ps.map fun p => if val p.1 = x then cval val p.2 j else 0).sum

def wGroups (val : ν → Rat) (x : Rat) (j : Nat) (gs : List (ν × List (List ν))) : Rat :=
  (gs.map fun g => if val g.1 = x then (g.2.map fun r => cval val r j).sum else 0).sum

theorem insertGroup_cases (val : ν → Rat) (e : ν) (row : List ν) (gs : List (ν × List (List ν))) :
    (∃ l e0 rows r, gs = l ++ (e0, rows) :: r ∧ val e = val e0 ∧
        insertGroup val e row gs = l ++ (e0, rows ++ [row]) :: r) ∨
      ((∀ g ∈ gs, val e ≠ val g.1) ∧ insertGroup val e row gs = gs ++ [(e, [row])]) := by
  induction gs with
  | nil => exact Or.inr ⟨fun _ h => (nomatch h), rfl⟩
  | cons g gs ih =>
    by_cases h : val e = val g.1
    · exact Or.inl ⟨[], g.1, g.2, gs, rfl, h, if_pos h⟩
    · rw [show insertGroup val e row (g :: gs) = g :: insertGroup val e row gs from if_neg h]
      rcases ih with ⟨l, e0, rows, r, rfl, he, hi⟩ | ⟨hn, hi⟩
      · exact Or.inl ⟨g :: l, e0, rows, r, rfl, he, congrArg _ hi⟩
      · exact Or.inr ⟨List.forall_mem_cons.2 ⟨h, hn⟩, congrArg _ hi⟩

theorem wGroups_insert (val : ν → Rat) (x : Rat) (j : Nat) (e : ν) (row : List ν)
    (gs : List (ν × List (List ν))) :
    wGroups val x j (insertGroup val e row gs)
      = wGroups val x j gs + (if val e = x then cval val row j else 0) := by
  rcases insertGroup_cases val e row gs with ⟨l, e0, rows, r, rfl, he, hi⟩ | ⟨_, hi⟩
  · simp only [hi, he, wGroups, List.map_append, List.map_cons, List.map_nil, List.sum_append, List.sum_cons,
      List.sum_nil, Rat.add_zero]
    split
    · ac_rfl
    · rw [Rat.add_zero]
  · simp only [hi, wGroups, List.map_append, List.map_cons, List.map_nil, List.sum_append, List.sum_cons, List.sum_nil,
      Rat.add_zero]

theorem wGroups_groupRows (val : ν → Rat) (x : Rat) (j : Nat) (ps : List (ν × List ν)) :
    wGroups val x j (groupRows val ps) = wPrims val x j ps := by
  suffices h : ∀ gs, wGroups val x j (ps.foldl (fun gs p => insertGroup val p.1 p.2 gs) gs)
      = wGroups val x j gs + wPrims val x j ps from (h []).trans (Rat.zero_add _)
  induction ps with
  | nil => exact fun gs => (Rat.add_zero _).symm
  | cons p ps ih =>
    intro gs
    rw [List.foldl_cons, ih, wGroups_insert, Rat.add_assoc]
    rfl

/-- group representatives are pairwise value-distinct -/
def DistinctReps (val : ν → Rat) (gs : List (ν × List (List ν))) : Prop :=
  gs.Pairwise (fun a b => val a.1 ≠ val b.1)

theorem groupRows_distinct (val : ν → Rat) (ps : List (ν × List ν)) :
    DistinctReps val (groupRows val ps) := by
  refine List.foldlRecOn ps _ List.Pairwise.nil fun gs h p _ => ?_
  rcases insertGroup_cases val p.1 p.2 gs with ⟨l, e0, rows, r, rfl, _, hi⟩ | ⟨hn, hi⟩
  · rw [hi]
    simp only [DistinctReps, List.pairwise_append, List.pairwise_cons, List.mem_cons, forall_eq_or_imp] at h ⊢
    exact h
  · rw [hi]
    refine List.pairwise_append.2 ⟨h, List.pairwise_singleton _ _, fun g hg g' hg' => ?_⟩
    rw [List.mem_singleton.1 hg']
    exact (hn g hg).symm

theorem groupRows_mem (val : ν → Rat) (ps : List (ν × List ν)) :
    ∀ g ∈ groupRows val ps, (∃ r, (g.1, r) ∈ ps) ∧ g.2 ≠ [] ∧ ∀ r ∈ g.2, ∃ e, (e, r) ∈ ps := by
  refine List.foldlRecOn (motive := fun gs : List (ν × List (List ν)) =>
    ∀ g ∈ gs, (∃ r, (g.1, r) ∈ ps) ∧ g.2 ≠ [] ∧ ∀ r ∈ g.2, ∃ e, (e, r) ∈ ps)
    ps _ (fun _ h => absurd h List.not_mem_nil) fun gs h p hp g hg => ?_
  rcases insertGroup_cases val p.1 p.2 gs with ⟨l, e0, rows, r, rfl, _, hi⟩ | ⟨_, hi⟩
  · rw [hi, List.mem_append, List.mem_cons] at hg
    rcases hg with hg | rfl | hg
    · exact h g (by simp [hg])
    · -- the group that took the row of `p`
      obtain ⟨h1, _, h3⟩ := h (e0, rows) (by simp)
      refine ⟨h1, by simp, fun r hr => ?_⟩
      rcases List.mem_append.1 hr with hr | hr
      · exact h3 r hr
      · rw [List.mem_singleton.1 hr]
        exact ⟨p.1, hp⟩
    · exact h g (by simp [hg])
  · rw [hi, List.mem_append, List.mem_singleton] at hg
    rcases hg with hg | rfl
    · exact h g hg
    · -- the new group, holding the row of `p` alone
      refine ⟨⟨p.2, hp⟩, by simp, fun r hr => ?_⟩
      rw [List.mem_singleton.1 hr]
      exact ⟨p.1, hp⟩

end BSE
