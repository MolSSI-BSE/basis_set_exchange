import BSEModel.G94Ecp
import BSEProofs.Lemmas.NwchemEcp
import BSEProofs.Lemmas.Partition

/-! # Gaussian94 ECP block: what reading gives back for what was written

The reader takes the title line of a potential as a comment and numbers the potentials by position, `[L, 0, 1, …, L-1]`
with `L` from the head of the block (`numbered`); it raises unless there are exactly `L + 1` of them.  So the writer's own
text is read iff the count fits (`parseEcpBlock_write`), and the momenta read are the potentials' own if these are
`L, 0, …, L-1` in write order (`numbered_faithful`). -/

namespace BSE.G94
open BSE.Nwchem (EPot RPot writeOrder mapR_eq readPot)
open BSE.Turbomole (splitAt stealOne lines3 split_steal)
variable {ν : Type}

/-! `splitBlocks` and `steal` are `partition_lines(…, before=1)` at the count lines -/

def isCount : ELine ν → Bool
  | .count _ => true
  | .other _ => false

theorem splitBlocks_eq (l : List (ELine ν)) : splitBlocks l = splitAt isCount l := by
  induction l with
  | nil => rfl
  | cons x xs ih => cases x <;> simp [splitBlocks, splitAt, isCount, ih]

theorem steal_eq (prev : List (ELine ν)) (bs : List (List (ELine ν))) : steal prev bs = stealOne prev bs := by
  induction bs generalizing prev with
  | nil => rfl
  | cons b bs ih => simp [steal, stealOne, ih]

/-- a potential as that partition sees it: title, count line, rows -/
def potBlock (T : ETables ν) (maxAm : Nat) (p : EPot ν) : ELine ν × ELine ν × List (ELine ν) :=
  (.other (T.title p.am maxAm), .count (T.natTok p.terms.length), p.terms.map fun t => .other [t.1, t.2.1, t.2.2])

/-- what the round trip asks of one potential over an arbitrary tables record `T`: the tokens have the kind the reader tests for,
and what the writer prints through `T` (counts, letters, symbols) the reader's functions of `T` read back -/
structure PotOKE (T : ETables ν) (p : EPot ν) : Prop where
  terms_ne : p.terms ≠ []
  typed : ∀ t ∈ p.terms, T.isInt t.1 = true ∧ T.isNum t.2.1 = true ∧ T.isNum t.2.2 = true
  count_rt : T.intOfTok (T.natTok p.terms.length) = some (p.terms.length : Int)

def colsOf (p : EPot ν) : List ν × List ν × List ν := (p.terms.map (·.1), p.terms.map (·.2.1), p.terms.map (·.2.2))

theorem parsePotE_block (T : ETables ν) (maxAm : Nat) (p : EPot ν) (ok : PotOKE T p) :
    parsePotE T (lines3 (potBlock T maxAm p)) = .ok (colsOf p) := by
  have hlen : 0 < p.terms.length := List.length_pos_iff.2 ok.terms_ne
  obtain ⟨h3, hr, hg, hc⟩ := Nwchem.rows3 p.terms (·.1) (·.2.1) (·.2.2)
  obtain ⟨a1, a2, a3⟩ := Nwchem.typed_cols ok.typed
  unfold parsePotE potBlock lines3
  simp only [ok.count_rt]
  rw [if_neg (by omega), if_neg (by simp)]
  unfold parseTableE
  simp only [List.map_map, Function.comp_def, lineToks, h3, Bool.false_eq_true, if_false, hr, hg, hc, a1, a2, a3, Bool.not_true,
    colsOf]

/-- … and of the block's head lines: the symbol, the highest momentum and the electron count parse -/
structure BlockOK (T : ETables ν) (z : Nat) (nelec : ν) (pots : List (EPot ν)) : Prop where
  sym : T.zOfTok (T.symTok z) = some z
  lmax : T.natOfTok (T.natTok ((pots.map (·.am)).foldl max 0)) = some ((pots.map (·.am)).foldl max 0)
  nelec : (T.natOfTok nelec).isSome = true
  pots : ∀ p ∈ writeOrder pots, PotOKE T p

/-- the potentials as the reader numbers them: by position, `[L, 0, 1, …]` -/
def numbered (L : Nat) (ws : List (EPot ν)) : List (RPot ν) :=
  ((potentialAmList L).zip (ws.map colsOf)).map fun at' =>
    { am := some [at'.1], rexp := at'.2.1, gexp := at'.2.2.1, coef := at'.2.2.2 }

theorem parseEcpBlock_write (T : ETables ν) (z : Nat) (nelec : ν) (pots : List (EPot ν)) (ok : BlockOK T z nelec pots)
    (hne : writeOrder pots ≠ []) :
    parseEcpBlock T (ecpBlock T z nelec pots)
      = if (writeOrder pots).length = (pots.map (·.am)).foldl max 0 + 1
        then .ok (z, nelec, numbered ((pots.map (·.am)).foldl max 0) (writeOrder pots))
        else .error .runtime := by
  obtain ⟨n0, hn0⟩ := Option.isSome_iff_exists.1 ok.nelec
  obtain ⟨x, r, rs, hsplit, hsteal⟩ := split_steal isCount ((writeOrder pots).map (potBlock T ((pots.map (·.am)).foldl max 0)))
    (by simpa using hne) (by
      intro b hb
      obtain ⟨p, _, rfl⟩ := List.mem_map.1 hb
      exact ⟨rfl, rfl, fun x hx => by obtain ⟨t, _, rfl⟩ := List.mem_map.1 hx; rfl⟩)
  have hbody : (writeOrder pots).flatMap (potLinesE T ((pots.map (·.am)).foldl max 0))
      = ((writeOrder pots).map (potBlock T ((pots.map (·.am)).foldl max 0))).flatMap lines3 := by
    rw [List.flatMap_map]; rfl
  unfold parseEcpBlock ecpBlock
  simp only [ok.sym, ok.lmax, hn0, hbody, splitBlocks_eq, steal_eq, hsplit, List.isEmpty_cons, Bool.false_eq_true, if_false,
    List.length_singleton, bne_self_eq_false, hsteal, List.tail_cons, List.map_map]
  rw [mapR_eq, mapEx_map (parsePotE T) (lines3 ∘ potBlock T _) colsOf (writeOrder pots) (fun p hp => parsePotE_block T _ p (ok.pots p hp))]
  by_cases hlen : (writeOrder pots).length = (pots.map (·.am)).foldl max 0 + 1
  · simp [hlen, numbered, potentialAmList]
  · have h1 : ((pots.map (·.am)).foldl max 0 + 1 != (writeOrder pots).length) = true := by simp; omega
    simp [potentialAmList, h1, hlen]

theorem numbered_faithful (L : Nat) (top : EPot ν) (rest : List (EPot ν)) (htop : top.am = L)
    (hrest : rest.map (·.am) = List.range L) :
    numbered L (top :: rest) = (top :: rest).map readPot := by
  unfold numbered potentialAmList
  simp only [List.map_cons, List.zip_cons_cons, colsOf, readPot, htop]
  rw [← hrest, List.zip_map', List.map_map]
  rfl

end BSE.G94
