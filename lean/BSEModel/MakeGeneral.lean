import BSEModel.Manip
/-! `manip.py: make_general` before its final `prune_basis`, on one element's shell list: the shells of one momentum
become one shell with zero-padded columns, which as functions (`colFn`) are the columns they were padded from. -/
namespace BSE
variable {ν : Type}

/-- first-occurrence order of distinct keys -/
def dedupKeys {κ : Type} [DecidableEq κ] : List κ → List κ
  | [] => []
  | k :: ks => k :: (dedupKeys ks).filter (· ≠ k)

/-- columns of one source shell inside the merged shell: `[zero]*cur ++ c ++ [zero]*(nprim-len)` -/
def padCols (zero : ν) (cur nprim : Nat) (coefs : List (List ν)) : List (List ν) :=
  coefs.map fun c => List.replicate cur zero ++ c ++ List.replicate (nprim - (cur + c.length)) zero

/-- all padded columns of a group of shells, walking the primitive offset -/
def groupCols (zero : ν) (nprim : Nat) : Nat → List (Shell ν) → List (List ν)
  | _, [] => []
  | cur, sh :: rest => padCols zero cur nprim sh.coefs ++ groupCols zero nprim (cur + sh.exps.length) rest

/-- `newsh` of `make_general` (manip.py): type of the first shell of the group, empty region, all exponents in order -/
def mergeGroup (zero : ν) (am : List Nat) (group : List (Shell ν)) : Shell ν :=
  let exps := group.flatMap (·.exps)
  { am := am, ftype := (group.head?.map (·.ftype)).getD "", region := "",
    exps := exps, coefs := groupCols zero exps.length 0 group }

/-- the per-am part of make_general; `sortAm` is `sorted(all_am)` -/
def makeGeneralCore [DecidableEq ν] (zero : ν) (sortAm : List (List Nat) → List (List Nat))
    (shells : List (Shell ν)) : List (Shell ν) :=
  let fused := shells.filter (fun sh => sh.am.length > 1)
  let single := shells.filter (fun sh => ¬ sh.am.length > 1)
  let allAm := sortAm (dedupKeys (single.map (·.am)))
  fused ++ allAm.map (fun am => mergeGroup zero am (shells.filter (fun sh => sh.am = am)))

theorem colFn_append (val : ν → Rat) (e1 e2 c1 c2 : List ν) (h : e1.length = c1.length) (x : Rat) :
    colFn val (e1 ++ e2) (c1 ++ c2) x = colFn val e1 c1 x + colFn val e2 c2 x := by
  unfold colFn
  rw [List.zip_append h, List.map_append, List.sum_append]

theorem colFn_replicate_zero (val : ν → Rat) (zero : ν) (hz : val zero = 0) (e : List ν) (n : Nat) (x : Rat) :
    colFn val e (List.replicate n zero) x = 0 :=
  colFn_zero_of_allZero val e _ (fun _ hc => List.eq_of_mem_replicate hc ▸ hz) x

/-- a padded column is the original column, seen inside the concatenated exponent list -/
theorem colFn_padded (val : ν → Rat) (zero : ν) (hz : val zero = 0)
    (pre ex post c : List ν) (hc : c.length = ex.length) (x : Rat) :
    colFn val (pre ++ ex ++ post)
      (List.replicate pre.length zero ++ c ++ List.replicate ((pre ++ ex ++ post).length - (pre.length + c.length)) zero) x
      = colFn val ex c x := by
  rw [List.append_assoc, List.append_assoc, colFn_append val pre (ex ++ post) _ _ (by simp),
    colFn_replicate_zero val zero hz, colFn_append val ex post c _ hc.symm, colFn_replicate_zero val zero hz,
    Rat.add_zero, Rat.zero_add]

theorem groupCols_colFn (val : ν → Rat) (zero : ν) (hz : val zero = 0) :
    ∀ (group : List (Shell ν)) (pre : List ν), (∀ sh ∈ group, RectShell sh) →
      (groupCols zero (pre ++ group.flatMap (·.exps)).length pre.length group).map
          (colFn val (pre ++ group.flatMap (·.exps)))
        = group.flatMap (fun sh => sh.coefs.map (colFn val sh.exps)) := by
  intro group
  induction group with
  | nil => intro pre _; simp [groupCols]
  | cons sh rest ih =>
    intro pre hr
    simp only [groupCols, List.flatMap_cons, List.map_append]
    congr 1
    · simp only [padCols, List.map_map]
      apply List.map_congr_left
      intro c hc
      funext x
      simpa [List.append_assoc] using
        colFn_padded val zero hz pre sh.exps (rest.flatMap (·.exps)) c (hr sh (by simp) c hc) x
    · -- the remaining shells, with `pre ++ sh.exps` in front
      simpa [List.append_assoc] using ih (pre ++ sh.exps) fun s hs => hr s (by simp [hs])

theorem groupCols_fns (val : ν → Rat) (zero : ν) (hz : val zero = 0) (x : Rat) :
    ∀ (group : List (Shell ν)) (pre : List ν), (∀ sh ∈ group, RectShell sh) →
      (groupCols zero (pre ++ group.flatMap (·.exps)).length pre.length group).map
          (fun c => colFn val (pre ++ group.flatMap (·.exps)) c x)
        = group.flatMap (fun sh => sh.coefs.map (fun c => colFn val sh.exps c x)) := by
  intro group pre hr
  simpa [List.map_flatMap, Function.comp_def] using congrArg (List.map (· x)) (groupCols_colFn val zero hz group pre hr)

theorem mergeGroup_colFn (val : ν → Rat) (zero : ν) (hz : val zero = 0) (am : List Nat) (group : List (Shell ν))
    (hr : ∀ sh ∈ group, RectShell sh) :
    (mergeGroup zero am group).coefs.map (colFn val (mergeGroup zero am group).exps)
      = group.flatMap (fun sh => sh.coefs.map (colFn val sh.exps)) :=
  groupCols_colFn val zero hz group [] hr

theorem mergeGroup_funcs_eq (val : ν → Rat) (zero : ν) (hz : val zero = 0) (a : Nat)
    (group : List (Shell ν)) (hr : ∀ sh ∈ group, RectShell sh) (ham : ∀ sh ∈ group, sh.am = [a]) :
    (mergeGroup zero [a] group).funcs val = group.flatMap (·.funcs val) := by
  rw [Shell.funcs_single val (a := a) rfl, mergeGroup_colFn val zero hz [a] group hr, List.map_flatMap, List.flatMap_def,
    List.flatMap_def]
  exact congrArg List.flatten (List.map_congr_left fun sh hsh => (Shell.funcs_single val (ham sh hsh)).symm)

/-- the merged shell carries exactly the functions of the group's shells -/
theorem mergeGroup_funcs (val : ν → Rat) (zero : ν) (hz : val zero = 0) (a : Nat)
    (group : List (Shell ν)) (hr : ∀ sh ∈ group, RectShell sh) (ham : ∀ sh ∈ group, sh.am = [a]) (f : Func) :
    f ∈ (mergeGroup zero [a] group).funcs val ↔ ∃ sh ∈ group, f ∈ sh.funcs val := by
  rw [mergeGroup_funcs_eq val zero hz a group hr ham, List.mem_flatMap]

theorem mem_dedupKeys {κ : Type} [DecidableEq κ] (l : List κ) (x : κ) : x ∈ dedupKeys l ↔ x ∈ l := by
  induction l with
  | nil => simp [dedupKeys]
  | cons k ks ih =>
    simp only [dedupKeys, List.mem_cons, List.mem_filter, ih]
    by_cases hx : x = k <;> simp [hx]

theorem am_singleton {am : List Nat} (hne : am ≠ []) (h1 : ¬ am.length > 1) : ∃ a, am = [a] :=
  match am, hne, h1 with
  | [a], _, _ => ⟨a, rfl⟩
  | [], h, _ => absurd rfl h
  | _ :: _ :: _, _, h => absurd (by simp) h

theorem mem_makeGeneralCore [DecidableEq ν] (zero : ν) (sortAm : List (List Nat) → List (List Nat))
    (hperm : ∀ l x, x ∈ sortAm l ↔ x ∈ l) (shells : List (Shell ν)) (ham : ∀ sh ∈ shells, sh.am ≠ []) (s : Shell ν) :
    s ∈ makeGeneralCore zero sortAm shells ↔ (s ∈ shells ∧ s.am.length > 1) ∨
      ∃ a, (∃ s0 ∈ shells, s0.am = [a]) ∧ s = mergeGroup zero [a] (shells.filter (fun sh => sh.am = [a])) := by
  unfold makeGeneralCore
  simp only [List.mem_append, List.mem_filter, List.mem_map, hperm, mem_dedupKeys, decide_eq_true_eq]
  constructor
  · rintro (h | ⟨am, ⟨s0, ⟨hs0, h1⟩, rfl⟩, rfl⟩)
    · exact Or.inl h
    · obtain ⟨a, ha⟩ := am_singleton (ham s0 hs0) h1
      exact Or.inr ⟨a, ⟨s0, hs0, ha⟩, by rw [ha]⟩
  · rintro (h | ⟨a, ⟨s0, hs0, ha⟩, rfl⟩)
    · exact Or.inl h
    · exact Or.inr ⟨[a], ⟨s0, ⟨hs0, by simp [ha]⟩, ha⟩, rfl⟩

/-- **make_general (before pruning) keeps the set of contracted functions of an element.** -/
theorem funcSet_makeGeneralCore [DecidableEq ν] (val : ν → Rat) (zero : ν) (hz : val zero = 0)
    (sortAm : List (List Nat) → List (List Nat)) (hperm : ∀ l x, x ∈ sortAm l ↔ x ∈ l)
    (shells : List (Shell ν)) (hr : ∀ sh ∈ shells, RectShell sh) (ham : ∀ sh ∈ shells, sh.am ≠ [])
    (f : Func) :
    funcSet val (makeGeneralCore zero sortAm shells) f ↔ funcSet val shells f := by
  have hmerge := fun a => mergeGroup_funcs val zero hz a (shells.filter (fun sh => sh.am = [a]))
    (fun sh h => hr sh (List.mem_filter.1 h).1) (fun sh h => by simpa using (List.mem_filter.1 h).2) f
  unfold funcSet
  constructor
  · rintro ⟨s, hs, hf⟩
    rcases (mem_makeGeneralCore zero sortAm hperm shells ham s).1 hs with ⟨hs, _⟩ | ⟨a, _, rfl⟩
    · exact ⟨s, hs, hf⟩
    · obtain ⟨sh, hsh, hfs⟩ := (hmerge a).1 hf
      exact ⟨sh, (List.mem_filter.1 hsh).1, hfs⟩
  · rintro ⟨sh, hsh, hf⟩
    by_cases h1 : sh.am.length > 1
    · exact ⟨sh, (mem_makeGeneralCore zero sortAm hperm shells ham sh).2 (Or.inl ⟨hsh, h1⟩), hf⟩
    · obtain ⟨a, ha⟩ := am_singleton (ham sh hsh) h1
      exact ⟨_, (mem_makeGeneralCore zero sortAm hperm shells ham _).2 (Or.inr ⟨a, ⟨sh, hsh, ha⟩, rfl⟩),
        (hmerge a).2 ⟨sh, List.mem_filter.2 ⟨hsh, by simpa using ha⟩, hf⟩⟩

end BSE
