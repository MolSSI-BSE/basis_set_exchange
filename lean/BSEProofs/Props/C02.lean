import BSEModel.Canon
import BSEGen.Manip
import BSEGen.Api
import BSEProofs.Lemmas.Sort
import BSEProofs.Lemmas.Shapes
/-! # C02 — re-contraction operations preserve the set of basis functions exactly

`funcSet val shells f` : the contracted function `f = (l, exponent ↦ coefficient)` occurs in the
element's shell list.  The statements are for every valuation `val` of number tokens and every `max_am`; those named
`_code` are for `numVal` and the padding literal read from the source.  The lemmas they rest on are in
`BSEModel/{Shell,Manip,MakeGeneral,Spdf,Canon}` and `Lemmas/{PruneShell,PruneFull,Sort,Shapes}`. -/
namespace BSE.Props.C02

variable {ν : Type}

/-- **prune_shell** (merging of equal exponents, dropping dead primitives) keeps every contracted
function of a rectangular shell — or raises -/
theorem pruneShell_preserves (val : ν → Rat) (sh sh' : Shell ν)
    (hr : Rect sh.exps.length sh.coefs) (hne : sh.coefs ≠ [])
    (h : pruneShell val sh = .ok sh') (hkeep : sh'.exps ≠ []) :
    sh'.funcs val = sh.funcs val :=
  pruneShell_funcs val sh sh' _ rfl hr hne h hkeep

/-- the duplicate-shell removal of **prune_basis** keeps the set -/
theorem pruneBasis_dedup_preserves [DecidableEq ν] (val : ν → Rat) (l : List (Shell ν)) (f : Func) :
    funcSet val (dedup [] l) f ↔ funcSet val l f :=
  funcSet_dedup val l f

/-- **uncontract_general** (the splitting step) keeps the set -/
theorem uncontractGeneral_preserves (val : ν → Rat) (shells : List (Shell ν)) (f : Func)
    (hwf : ∀ sh ∈ shells, sh.am ≠ []) :
    funcSet val (uncontractGeneralCore shells) f ↔ funcSet val shells f :=
  funcSet_uncontractGeneralCore val shells f hwf

/-- **uncontract_spdf** keeps the set for every `max_am`, with no hypothesis on the shells -/
theorem uncontractSpdf_preserves (val : ν → Rat) (k : Nat) (shells : List (Shell ν)) (f : Func) :
    funcSet val (uncontractSpdf k shells) f ↔ funcSet val shells f :=
  funcSet_uncontractSpdf val k shells f

/-- the zero with which `make_general` pads (read from the source on every run) is a zero -/
theorem mgZero_is_zero : numVal BSE.Gen.Manip.mgZero = 0 := by decide +kernel

/-- the inner call of `make_general` is `uncontract_spdf(basis, 0, …)` followed by `prune_basis` -/
theorem makeGeneral_calls : BSE.Gen.Manip.makeGeneralCalls.map (·.op) = [.uncontractSpdf 0, .pruneBasis] := rfl

/-- **make_general** (per-momentum concatenation with zero padding at the primitive offset, the
step before pruning) keeps the set, with the padding literal and momentum sort of the code -/
theorem makeGeneral_preserves_code (shells : List (Shell String))
    (hr : ∀ sh ∈ shells, RectShell sh) (ham : ∀ sh ∈ shells, sh.am ≠ []) (f : Func) :
    funcSet numVal (makeGeneralCore BSE.Gen.Manip.mgZero sortAm shells) f ↔ funcSet numVal shells f :=
  funcSet_makeGeneralCore numVal _ mgZero_is_zero sortAm mem_sortAm shells hr ham f

/-- **the checker the driver runs is sound**: `sameFuncs = true` implies equal function sets -/
theorem checker_sound (val : ν → Rat) (a b : List (Shell ν)) (h : sameFuncs val a b = true) (f : Func) :
    funcSet val a f ↔ funcSet val b f :=
  sameFuncs_sound val a b h f

/-- the three re-contraction flags of `get_basis` run in the order
uncontract_general → uncontract_spdf(0) → make_general → prune_basis, each setting `needs_pruning` -/
theorem getBasis_block_order :
    (BSE.Gen.Api.optionBlocks.filter (fun b => b.cond ∈ ["uncontract_general", "uncontract_spdf", "make_general", "needs_pruning"])).map
        (fun b => (b.cond, b.steps.map (·.op), b.setsPrune))
      = [("uncontract_general", [.uncontractGeneral], true), ("uncontract_spdf", [.uncontractSpdf 0], true),
         ("make_general", [.makeGeneral false], true), ("needs_pruning", [.pruneBasis], false)] := by
  decide +kernel

/-! ## whole operations (core step **and** the pruning pass that follows it)

`SemWF val sh`: the shell is rectangular, has a momentum and a column, and no column is the zero function under
`val` (the validator's "no all-zero contraction" rule, stated on values).  Under it the pruning pass cannot empty
a shell (`pruneShell_never_empties`) and cannot drop a function, so the *whole* operation — as `get_basis` runs it — keeps the set. -/

/-- **prune_basis** (every shell pruned, then exact-duplicate shells dropped): if it returns, the set is the same -/
theorem pruneBasis_preserves_full [DecidableEq ν] (val : ν → Rat) (shells out : List (Shell ν))
    (hw : ∀ sh ∈ shells, SemWF val sh) (h : pruneShells val shells = .ok out) (f : Func) :
    funcSet val out f ↔ funcSet val shells f :=
  funcSet_pruneShells val shells out hw h f

/-- a well-formed shell survives pruning with at least one primitive -/
theorem pruneShell_never_empties (val : ν → Rat) (sh sh' : Shell ν) (hw : SemWF val sh)
    (h : pruneShell val sh = .ok sh') : sh'.exps ≠ [] :=
  pruneShell_survives val sh sh' hw h

/-- **uncontract_general** including its pruning pass -/
theorem uncontractGeneral_preserves_full [DecidableEq ν] (val : ν → Rat) (shells out : List (Shell ν))
    (hw : ∀ sh ∈ shells, SemWF val sh) (h : uncontractGeneral val shells = .ok out) (f : Func) :
    funcSet val out f ↔ funcSet val shells f := by
  unfold uncontractGeneral at h
  rw [funcSet_pruneShells val _ out (semWF_uncontractGeneralCore val shells hw) h f]
  exact funcSet_uncontractGeneralCore val shells f (fun sh hsh => (hw sh hsh).am_ne)

/-- **make_general** as called by `get_basis`: optional split of fused shells, per-momentum merge with zero
padding, pruning pass.  If it returns (it raises on mixed function types), the set is the same —
with the padding literal of the source.  The hypothesis `hw` speaks about the shell list after the optional split
of fused shells. -/
theorem makeGeneral_preserves_full_code (skip : Bool) (shells out : List (Shell String))
    (hw : ∀ sh ∈ (if skip then shells else uncontractSpdf 0 shells), SemWF numVal sh)
    (h : makeGeneral numVal BSE.Gen.Manip.mgZero skip shells = .ok out) (f : Func) :
    funcSet numVal out f ↔ funcSet numVal shells f :=
  funcSet_makeGeneral numVal _ mgZero_is_zero skip shells out hw h f

/-- **sort_shell**: reordering primitives (every column with them) and, for a single-momentum shell, the columns
only permutes the functions of the shell -/
theorem sortShell_preserves (val : ν → Rat) (rsq : List Rat) (sh : Shell ν) (hr : RectShell sh)
    (hk : sh.am.length = 1 → rsq.length = sh.coefs.length) (f : Func) :
    f ∈ (sortShell val rsq sh).funcs val ↔ f ∈ sh.funcs val :=
  (sortShell_funcs_perm val rsq sh hr hk).mem_iff

/-- **sort_shells** (each shell sorted, then the shells stably sorted by key) keeps the set, whatever the keys -/
theorem sortShells_preserves (val : ν → Rat) (keyed : List (Shell ν × List Rat × Rat))
    (hw : ∀ t ∈ keyed, RectShell t.1 ∧ (t.1.am.length = 1 → t.2.1.length = t.1.coefs.length)) (f : Func) :
    funcSet val (sortShells val keyed) f ↔ funcSet val (keyed.map (·.1)) f := by
  unfold funcSet
  simp only [(sortShells_perm val keyed).mem_iff, List.mem_map]
  constructor
  · rintro ⟨_, ⟨t, ht, rfl⟩, hf⟩
    exact ⟨_, ⟨t, ht, rfl⟩, (sortShell_preserves val _ _ (hw t ht).1 (hw t ht).2 f).1 hf⟩
  · rintro ⟨_, ⟨t, ht, rfl⟩, hf⟩
    exact ⟨_, ⟨t, ht, rfl⟩, (sortShell_preserves val _ _ (hw t ht).1 (hw t ht).2 f).2 hf⟩

/-- **uncontract_general**: no general contraction is left in a single-momentum shell (whole operation, pruning included) -/
theorem uncontractGeneral_shape [DecidableEq ν] (val : ν → Rat) (shells out : List (Shell ν))
    (hw : ∀ sh ∈ shells, SemWF val sh) (h : uncontractGeneral val shells = .ok out) :
    ∀ s ∈ out, s.am.length = 1 → s.coefs.length = 1 :=
  fun s hs h1 => BSE.uncontractGeneral_shape val shells out hw h s hs h1

/-- **uncontract_spdf**: no fused shell of the result has a member above `max_am` — every shell list, every `max_am` -/
theorem uncontractSpdf_shape (k : Nat) (shells : List (Shell ν)) :
    ∀ s ∈ uncontractSpdf k shells, s.am.length > 1 → ∀ a ∈ s.am, a ≤ k :=
  fun s hs hf => BSE.uncontractSpdf_shape k shells s hs hf

/-- **make_general**: one shell per angular momentum among the single-momentum shells, in ascending order (whole operation) -/
theorem makeGeneral_shape [DecidableEq ν] (val : ν → Rat) (zero : ν) (hz : val zero = 0) (skip : Bool)
    (shells out : List (Shell ν))
    (hw : ∀ sh ∈ (if skip then shells else uncontractSpdf 0 shells), SemWF val sh)
    (h : makeGeneral val zero skip shells = .ok out) :
    ((out.map (·.am)).filter (fun am => ¬ am.length > 1)).Nodup ∧
    ((out.map (·.am)).filter (fun am => ¬ am.length > 1)).Pairwise (fun x y => x.headD 0 ≤ y.headD 0) :=
  BSE.makeGeneral_shape val zero hz skip shells out hw h

/-- the merge step neither creates nor drops fused shells -/
theorem makeGeneral_keeps_fused [DecidableEq ν] (zero : ν) (shells : List (Shell ν)) :
    (makeGeneralCore zero sortAm shells).filter (fun sh => sh.am.length > 1) = shells.filter (fun sh => sh.am.length > 1) := by
  unfold makeGeneralCore
  rw [List.filter_append, List.filter_filter, (List.filter_eq_nil_iff (l := List.map _ _)).2 ?hmerged, List.append_nil]
  · simp only [Bool.and_self]
  case hmerged =>
    intro s hs hfused
    obtain ⟨am, ham, rfl⟩ := List.mem_map.1 hs
    exact mergedAm_single shells am ham (of_decide_eq_true hfused)

/-- **sort_basis / sort_shell**: exponents in decreasing order of value — every shell, every key list -/
theorem sortShell_exponents_decreasing (val : ν → Rat) (rsq : List Rat) (sh : Shell ν) :
    ((sortShell val rsq sh).exps.map val).Pairwise (fun a b => a ≥ b) :=
  List.pairwise_map.2 (pairwise_permBy_sortIdx (· ≥ ·) (fun _ _ _ hab hbc => Rat.le_trans hbc hab)
    (fun _ _ => Rat.le_total) val (zKey_of_lt val sh.exps) _)

/-- **sort_basis / sort_shells**: shells by increasing (highest) momentum, each with decreasing exponents -/
theorem sortShells_momentum_increasing (val : ν → Rat) (keyed : List (Shell ν × List Rat × Rat)) :
    ((sortShells val keyed).map (fun s => s.am.foldl max 0)).Pairwise (fun a b => a ≤ b) ∧
    ∀ s ∈ sortShells val keyed, (s.exps.map val).Pairwise (fun a b => a ≥ b) := by
  constructor
  · unfold sortShells
    rw [List.map_map, List.pairwise_map]
    refine (pairwise_mergeSort_shellKey _).imp_of_mem ?_
    intro a b ha hb hab
    -- the second component of a triple is the highest momentum of its (sorted) shell
    obtain ⟨t, _, rfl⟩ := List.mem_map.1 (List.mem_mergeSort.1 ha)
    obtain ⟨u, _, rfl⟩ := List.mem_map.1 (List.mem_mergeSort.1 hb)
    exact hab.elim Nat.le_of_lt fun h => Nat.le_of_eq h.1
  · intro s hs
    obtain ⟨t, _, rfl⟩ := List.mem_map.1 ((sortShells_perm val keyed).mem_iff.1 hs)
    exact sortShell_exponents_decreasing val _ _

/-- **sort_shell is idempotent** when the spatial-extent keys move with their contractions (they are a function of
the contraction: `_spatial_extent` is computed column by column) -/
theorem sortShell_idempotent (val : ν → Rat) (rsq : List Rat) (sh : Shell ν) :
    sortShell val (permBy (cIdx rsq sh) rsq) (sortShell val rsq sh) = sortShell val rsq sh := by
  refine sortShell_of_sorted val _ _ (sortShell_exponents_decreasing val rsq sh) ?_
    fun h1 => ⟨permBy_cIdx_sorted rsq sh h1, ?_⟩
  · -- a column and the exponents were read through the same positions, those of the exponents
    intro c hc
    rw [sortShell_coefs] at hc
    obtain ⟨c0, _, rfl⟩ := List.mem_map.1 hc
    exact length_permBy_le_of_perm (sortIdx_perm _ _)
  · -- likewise the columns and the keys, through the positions of the keys
    rw [sortShell_coefs, List.length_map]
    exact length_permBy_le_of_perm (cIdx_perm_keys rsq sh h1)

/-- an element with a fused sp shell and a general-contraction d shell: it meets the hypotheses, and the operations act on it -/
def demo : List (Shell String) :=
  [{ am := [0, 1], ftype := "gto", region := "", exps := ["2.0", "1.0"], coefs := [["0.5", "0.5"], ["0.3", "0.7"]] },
   { am := [2], ftype := "gto_spherical", region := "", exps := ["3.0", "1.0"], coefs := [["1.0", "0.0"], ["0.0", "1.0"]] }]

example : (∀ sh ∈ demo, RectShell sh) ∧ (∀ sh ∈ demo, sh.am ≠ []) := by
  refine ⟨?_, ?_⟩ <;> intro sh h <;> simp [demo] at h <;> rcases h with rfl | rfl <;> simp [RectShell]
def demo1 : List (Shell String) :=
  [{ am := [0], ftype := "gto", region := "", exps := ["2.0", "1.0"], coefs := [["0.5", "0.5"]] },
   { am := [0], ftype := "gto", region := "", exps := ["0.25"], coefs := [["1.0"]] },
   { am := [2], ftype := "gto_spherical", region := "", exps := ["3.0", "1.0"], coefs := [["1.0", "0.0"], ["0.0", "1.0"]] }]

/-- that the operations return `.ok` on such elements is what the driver exhibits on every store element -/
example : ∀ sh ∈ demo1, SemWF numVal sh := by
  intro sh h
  simp only [demo1, List.mem_cons, List.not_mem_nil, or_false] at h
  rcases h with rfl | rfl | rfl
  · exact ⟨by simp, by intro c hc; simp at hc; subst hc; rfl, by simp,
      by intro c hc; simp at hc; subst hc; exact ⟨2, by decide +kernel⟩⟩
  · exact ⟨by simp, by intro c hc; simp at hc; subst hc; rfl, by simp,
      by intro c hc; simp at hc; subst hc; exact ⟨1/4, by decide +kernel⟩⟩
  · exact ⟨by simp, by intro c hc; simp at hc; rcases hc with rfl | rfl <;> rfl, by simp,
      by intro c hc; simp at hc; rcases hc with rfl | rfl
         · exact ⟨3, by decide +kernel⟩
         · exact ⟨1, by decide +kernel⟩⟩
example : (uncontractSpdf 0 demo).length = 3 ∧ (uncontractGeneralCore demo).length = 3 := by decide

end BSE.Props.C02
