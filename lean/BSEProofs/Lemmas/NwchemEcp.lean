import BSEProofs.Lemmas.NwchemRT
import BSEProofs.Lemmas.InsSort

/-! # NWChem ECP section: what reading gives back for what was written, and where the format loses information

The potential of highest momentum is written first, under the label `ul`, without its momentum; the reader gives it
(highest other momentum) + 1 (`ulAm`).  So reading what was written (`readEcp_write`) returns `readEl e`, not `e`:
everything in write order and token for token, except that one momentum. -/

namespace BSE.Nwchem
variable {ν : Type}

/-! The writer's text regrouped into the blocks the reader's partition returns (a head line and its rows); `ecpLines_body` ties
the regrouping to `ecpElementLines`. -/

def potLabel (T : EcpTables ν) (maxAm : Nat) (p : EPot ν) : Str :=
  if p.am = maxAm then "ul".toList else T.amStr [p.am]

def potBlock (T : EcpTables ν) (z maxAm : Nat) (p : EPot ν) : List Str × List (List ν) :=
  ([T.symOf z, potLabel T maxAm p], p.terms.map fun t => [t.1, t.2.1, t.2.2])

def maxAmOf (pots : List (EPot ν)) : Nat := (pots.map (·.am)).foldl max 0

def elBlocks (T : EcpTables ν) (e : Nat × Str × List (EPot ν)) : List (List Str × List (List ν)) :=
  ([T.symOf e.1, "nelec".toList, e.2.1], []) :: (writeOrder e.2.2).map (potBlock T e.1 (maxAmOf e.2.2))

theorem ecpLines_body (T : EcpTables ν) (els : List (Nat × Str × List (EPot ν))) :
    els.flatMap (ecpElementLines T) = (els.flatMap (elBlocks T)).flatMap blockLines := by
  rw [List.flatMap_assoc]
  congr 1; funext e
  rw [ecpElementLines, elBlocks, List.flatMap_cons, List.flatMap_map]
  congr 2; funext p
  simp only [potLines, blockLines, potBlock, potLabel, List.map_map]
  rfl

theorem setNelec_new (acc : EcpAcc ν) (z : Nat) (n : Str) (h : z ∉ acc.map (·.1)) :
    setNelec acc z n = .ok (acc ++ [(z, some n, [])]) := by
  induction acc with
  | nil => rfl
  | cons a as ih =>
    obtain ⟨z0, ne, ps⟩ := a
    have h0 : z0 ≠ z := fun e => h (by simp [e])
    simp only [setNelec, h0, if_false, ih (fun hm => h (by simp [hm])), List.cons_append]

theorem addPot_last (acc : EcpAcc ν) (z : Nat) (ne : Option Str) (ps : List (RPot ν)) (p : RPot ν)
    (h : z ∉ acc.map (·.1)) : addPot (acc ++ [(z, ne, ps)]) z p = acc ++ [(z, ne, ps ++ [p])] := by
  induction acc with
  | nil => simp [addPot]
  | cons a as ih =>
    obtain ⟨z0, n0, p0⟩ := a
    have h0 : z0 ≠ z := fun e => h (by simp [e])
    simp only [List.cons_append, addPot, h0, if_false, ih (fun hm => h (by simp [hm]))]

/-- the potential with its own momentum -/
def readPot (p : EPot ν) : RPot ν :=
  { am := some [p.am], rexp := p.terms.map (·.1), gexp := p.terms.map (·.2.1), coef := p.terms.map (·.2.2) }

/-- the potential as the reader stores it before the `ul` fix-up -/
def rawPot (maxAm : Nat) (p : EPot ν) : RPot ν :=
  if p.am = maxAm then { readPot p with am := none } else readPot p

/-- what the round trip asks of one potential over an arbitrary tables record `T`: the tokens have the kind the reader tests for,
and what the writer prints through `T` (counts, letters, symbols) the reader's functions of `T` read back; the last clause of `am_rt`:
its letter is not mistaken for `ul` -/
structure PotOK (T : EcpTables ν) (p : EPot ν) : Prop where
  terms_ne : p.terms ≠ []
  typed : ∀ t ∈ p.terms, T.isInt t.1 = true ∧ T.isNum t.2.1 = true ∧ T.isNum t.2.2 = true
  am_rt : T.amOf (T.amStr [p.am]) = some [p.am] ∧ isAlphaStr (T.amStr [p.am]) = true
    ∧ (lower (T.amStr [p.am]) == "ul".toList) = false

theorem rows3 {τ : Type} (l : List τ) (a b c : τ → ν) :
    (l.map fun t => [a t, b t, c t]).any (fun r => r.length != 3) = false
    ∧ (l.map fun t => [a t, b t, c t]).filterMap (·[0]?) = l.map a
    ∧ (l.map fun t => [a t, b t, c t]).filterMap (·[1]?) = l.map b
    ∧ (l.map fun t => [a t, b t, c t]).filterMap (·[2]?) = l.map c := by
  refine ⟨List.any_eq_false.2 fun r hr => ?_, ?_, ?_, ?_⟩
  · obtain ⟨t, _, rfl⟩ := List.mem_map.1 hr
    simp
  all_goals rw [List.filterMap_map]; simp [Function.comp_def]

theorem typed_cols {isInt isNum : ν → Bool} {terms : List (ν × ν × ν)}
    (h : ∀ t ∈ terms, isInt t.1 = true ∧ isNum t.2.1 = true ∧ isNum t.2.2 = true) :
    (terms.map (·.1)).all isInt = true ∧ (terms.map (·.2.1)).all isNum = true ∧ (terms.map (·.2.2)).all isNum = true := by
  simp only [List.all_map, List.all_eq_true]
  exact ⟨fun t ht => (h t ht).1, fun t ht => (h t ht).2.1, fun t ht => (h t ht).2.2⟩

theorem parseEcpTable_terms (T : EcpTables ν) (p : EPot ν) (ok : PotOK T p) :
    parseEcpTable T (p.terms.map fun t => [t.1, t.2.1, t.2.2])
      = .ok (p.terms.map (·.1), p.terms.map (·.2.1), p.terms.map (·.2.2)) := by
  obtain ⟨h3, hr, hg, hc⟩ := rows3 p.terms (·.1) (·.2.1) (·.2.2)
  obtain ⟨a1, a2, a3⟩ := typed_cols ok.typed
  unfold parseEcpTable
  simp only [h3, Bool.false_eq_true, if_false, hr, hg, hc, a1, a2, a3, Bool.not_true]

theorem ecpBlock_pot (T : EcpTables ν) (acc : EcpAcc ν) (z maxAm : Nat) (p : EPot ν) (ok : PotOK T p)
    (hz : T.zOf (T.symOf z) = some z ∧ isAlphaStr (T.symOf z) = true) :
    ecpBlock T acc (potBlock T z maxAm p) = .ok (addPot acc z (rawPot maxAm p)) := by
  have hrows : (p.terms.map fun t => [t.1, t.2.1, t.2.2]).isEmpty = false := by simp [ok.terms_ne]
  have hul : (lower "ul".toList == "ul".toList) = true := by decide +kernel
  have hulA : isAlphaStr "ul".toList = true := by decide +kernel
  unfold ecpBlock potBlock potLabel rawPot readPot
  by_cases hm : p.am = maxAm
  · simp only [hrows, Bool.false_eq_true, if_false, hm, if_true, hz.2, hulA, Bool.and_self, Bool.not_true, hz.1, hul,
      parseEcpTable_terms T p ok]
  · simp only [hrows, Bool.false_eq_true, if_false, hm, hz.2, ok.am_rt.2.1, Bool.and_self, Bool.not_true, hz.1,
      ok.am_rt.2.2, ok.am_rt.1, parseEcpTable_terms T p ok]

theorem foldE_pots (T : EcpTables ν) (z maxAm : Nat) (hz : T.zOf (T.symOf z) = some z ∧ isAlphaStr (T.symOf z) = true)
    (ps : List (EPot ν)) (hok : ∀ p ∈ ps, PotOK T p) :
    ∀ (acc : EcpAcc ν) (ne : Option Str) (pre : List (RPot ν)), z ∉ acc.map (·.1) →
      ∀ (rest : List (List Str × List (List ν))),
      foldE (ecpBlock T) (acc ++ [(z, ne, pre)]) (ps.map (potBlock T z maxAm) ++ rest)
        = foldE (ecpBlock T) (acc ++ [(z, ne, pre ++ ps.map (rawPot maxAm))]) rest := by
  induction ps with
  | nil => intro acc ne pre _ rest; simp
  | cons p ps ih =>
    intro acc ne pre hz' rest
    simp only [List.map_cons, List.cons_append, foldE, ecpBlock_pot T _ z maxAm p (hok p (by simp)) hz,
      addPot_last acc z ne pre _ hz']
    rw [ih (fun q hq => hok q (by simp [hq])) acc ne (pre ++ [rawPot maxAm p]) hz' rest]
    simp

/-- `sym_lower` beside `sym`: the `nelec` line is matched after lower-casing its symbol, the potential blocks as written -/
structure ElOK (T : EcpTables ν) (e : Nat × Str × List (EPot ν)) : Prop where
  sym : T.zOf (T.symOf e.1) = some e.1 ∧ isAlphaStr (T.symOf e.1) = true
  sym_lower : T.zOf (lower (T.symOf e.1)) = some e.1
  nelec : T.isDigits e.2.1 = true
  pots : ∀ p ∈ writeOrder e.2.2, PotOK T p

theorem ecpBlock_nelec (T : EcpTables ν) (acc : EcpAcc ν) (e : Nat × Str × List (EPot ν)) (ok : ElOK T e)
    (h : e.1 ∉ acc.map (·.1)) :
    ecpBlock T acc ([T.symOf e.1, "nelec".toList, e.2.1], []) = .ok (acc ++ [(e.1, some e.2.1, [])]) := by
  have hk : (lower "nelec".toList == "nelec".toList) = true := by decide +kernel
  unfold ecpBlock
  simp only [List.isEmpty_nil, if_true, ok.sym.2, hk, ok.nelec, Bool.and_self, Bool.not_true, Bool.false_eq_true, if_false,
    ok.sym_lower, setNelec_new acc e.1 e.2.1 h]

/-- the reader's entry for an element once its blocks are consumed, before the `ul` fix-up -/
def rawEl (e : Nat × Str × List (EPot ν)) : Nat × Option Str × List (RPot ν) :=
  (e.1, some e.2.1, (writeOrder e.2.2).map (rawPot (maxAmOf e.2.2)))

theorem foldE_els (T : EcpTables ν) (els : List (Nat × Str × List (EPot ν))) :
    ∀ (acc : EcpAcc ν), ((acc.map (·.1)) ++ els.map (·.1)).Nodup → (∀ e ∈ els, ElOK T e) →
      foldE (ecpBlock T) acc (els.flatMap (elBlocks T)) = .ok (acc ++ els.map rawEl) := by
  induction els with
  | nil => intro acc _ _; simp [foldE]
  | cons e es ih =>
    intro acc hnd hok
    have hz : e.1 ∉ acc.map (·.1) := fun hm => (List.nodup_append.1 hnd).2.2 e.1 hm e.1 (by simp) rfl
    have oke := hok e (by simp)
    simp only [List.flatMap_cons, elBlocks, List.cons_append, foldE, ecpBlock_nelec T acc e oke hz]
    rw [foldE_pots T e.1 _ oke.sym _ oke.pots acc _ [] hz, List.nil_append]
    exact (ih (acc ++ [rawEl e]) (by simpa [rawEl] using hnd) fun e' he' => hok e' (by simp [he'])).trans (by simp)

/-- what the reader makes of the momentum of the `ul` potential: (highest other momentum) + 1 -/
def ulAm (rest : List (EPot ν)) : Nat :=
  match rest.map (·.am) with
  | [] => 0
  | a :: as => as.foldl max a + 1

theorem fixUl_written (maxAm : Nat) (top : EPot ν) (rest : List (EPot ν)) (htop : top.am = maxAm)
    (hrest : ∀ r ∈ rest, r.am ≠ maxAm) (hne : rest ≠ []) :
    fixUl ((top :: rest).map (rawPot maxAm))
      = .ok ({ readPot top with am := some [ulAm rest] } :: rest.map readPot) := by
  have hraw : (top :: rest).map (rawPot maxAm) = { readPot top with am := none } :: rest.map readPot := by
    rw [List.map_cons, rawPot, if_pos htop]
    exact congrArg _ (List.map_congr_left fun r hr => if_neg (hrest r hr))
  have hall : (rest.map readPot).flatMap (fun p => p.am.getD []) = rest.map (·.am) := by
    simp [List.flatMap_map, readPot, ← List.map_eq_flatMap]
  obtain ⟨a, as, hra⟩ := List.exists_cons_of_ne_nil (mt List.map_eq_nil_iff.1 hne : rest.map (·.am) ≠ [])
  -- the placeholder is the only entry without momentum: it gets (the maximum of the others) + 1, the others stay
  rw [hraw]
  simp only [fixUl, List.flatMap_cons, Option.getD_none, List.nil_append, hall, hra, ulAm, List.map_cons, List.map_map]
  rfl

/-- what the reader returns for one written element: same potentials in write order, the first (`ul`) one with the
momentum the reader derives for it -/
def readEl (e : Nat × Str × List (EPot ν)) : Nat × Str × List (RPot ν) :=
  match writeOrder e.2.2 with
  | [] => (e.1, e.2.1, [])
  | top :: rest => (e.1, e.2.1, { readPot top with am := some [ulAm rest] } :: rest.map readPot)

/-- at least two potentials, the one written first has the highest momentum and no other has it -/
structure ElShape (e : Nat × Str × List (EPot ν)) : Prop where
  shape : ∃ top rest, writeOrder e.2.2 = top :: rest ∧ top.am = maxAmOf e.2.2 ∧ rest ≠ [] ∧ ∀ r ∈ rest, r.am ≠ maxAmOf e.2.2

theorem finishEcp_written (els : List (Nat × Str × List (EPot ν))) (hs : ∀ e ∈ els, ElShape e) :
    finishEcp (els.map rawEl) = .ok (els.map readEl) := by
  have h1 : mapR fixStep (els.map rawEl)
      = .ok (els.map fun e => ((readEl e).1, some (readEl e).2.1, (readEl e).2.2)) := by
    rw [mapR_eq]
    refine mapEx_map _ _ _ _ fun e he => ?_
    obtain ⟨top, rest, hw, ht, hne, hr⟩ := (hs e he).shape
    have := fixUl_written (maxAmOf e.2.2) top rest ht hr hne
    rw [List.map_cons] at this
    simp only [fixStep, rawEl, readEl, hw, this, List.map_cons, List.isEmpty_cons, Bool.false_eq_true, if_false]
  unfold finishEcp
  simp only [h1, mapR_eq]
  exact mapEx_map _ _ _ _ fun e _ => rfl

/-- Reading the written section consumes every block, whatever the shape of the potential lists: what comes back is what the
`ul` fix-up makes of the raw elements (an error for a lone potential, `readEl` under `ElShape`). -/
theorem readEcp_lines (T : EcpTables ν) (els : List (Nat × Str × List (EPot ν)))
    (hnd : (els.map (·.1)).Nodup) (hok : ∀ e ∈ els, ElOK T e) :
    readEcp T (ecpLines T els) = finishEcp (els.map rawEl) := by
  have hhdr : isEnd (Line.head (ν := ν) ["ECP".toList]) = false := by
    have : (lower "ECP".toList == "end".toList) = false := by decide
    simpa only [isEnd]
  -- the `nelec` line has three tokens, the label of a potential two: none is taken for `END`
  have hhead : ∀ b ∈ els.flatMap (elBlocks T), b.1.length ≠ 1 := by
    intro b hb
    obtain ⟨e, _, hbe⟩ := List.mem_flatMap.1 hb
    rcases List.mem_cons.1 hbe with rfl | hbe
    · simp
    · obtain ⟨p, _, rfl⟩ := List.mem_map.1 hbe
      simp [potBlock]
  unfold readEcp ecpLines
  rw [ecpLines_body, filter_section _ _ hhdr hhead]
  simp only [blocksR_blocks, List.isEmpty_nil, Bool.not_true, Bool.false_eq_true, if_false]
  rw [foldE_els T els [] (by simpa using hnd) hok]
  rfl

theorem readEcp_write (T : EcpTables ν) (els : List (Nat × Str × List (EPot ν)))
    (hnd : (els.map (·.1)).Nodup) (hok : ∀ e ∈ els, ElOK T e) (hs : ∀ e ∈ els, ElShape e) :
    readEcp T (ecpLines T els) = .ok (els.map readEl) :=
  (readEcp_lines T els hnd hok).trans (finishEcp_written els hs)

theorem insertPot_isInsert : InsSort.IsInsert (fun p q : EPot ν => p.am < q.am) insertPot :=
  ⟨fun _ => rfl, fun _ _ _ => rfl⟩

theorem writeOrder_cases (ps : List (EPot ν)) (hne : ps ≠ []) :
    ∃ init top, (init ++ [top]).Perm ps ∧ (init ++ [top]).Pairwise (fun a b => a.am ≤ b.am)
      ∧ writeOrder ps = top :: init := by
  have hperm := insertPot_isInsert.sort_perm ps
  have hsorted := insertPot_isInsert.sort_sorted (R := fun a b : EPot ν => a.am ≤ b.am) (fun _ _ _ => Nat.le_trans)
    (fun _ _ => Nat.le_of_lt) (fun _ _ => Nat.le_of_not_lt) ps
  rcases List.eq_nil_or_concat (ps.foldr insertPot []) with h | ⟨init, top, h⟩
  · rw [h] at hperm; exact absurd hperm.nil_eq.symm hne
  · rw [List.concat_eq_append] at h
    rw [h] at hperm hsorted
    exact ⟨init, top, hperm, hsorted, by simp [writeOrder, h]⟩

theorem writeOrder_perm (ps : List (EPot ν)) : (writeOrder ps).Perm ps := by
  by_cases hne : ps = []
  · rw [hne]; exact .refl _
  · obtain ⟨init, top, hperm, _, hw⟩ := writeOrder_cases ps hne
    rw [hw]; exact (List.perm_append_singleton top init).symm.trans hperm

theorem mem_writeOrder (ps : List (EPot ν)) (x : EPot ν) : x ∈ writeOrder ps ↔ x ∈ ps := (writeOrder_perm ps).mem_iff

theorem writeOrder_distinct (ps : List (EPot ν)) (hn : (ps.map (·.am)).Nodup) (hne : ps ≠ []) :
    ∃ top rest, writeOrder ps = top :: rest ∧ top.am = maxAmOf ps ∧ rest.length + 1 = ps.length ∧ ∀ r ∈ rest, r.am ≠ maxAmOf ps := by
  obtain ⟨init, top, hperm, hsorted, hw⟩ := writeOrder_cases ps hne
  -- the last of the sorted list is the highest, so `maxAmOf` is its momentum
  have hmax : maxAmOf ps = top.am := by
    apply Nat.le_antisymm
    · refine (foldl_max_le_iff _ 0 _).2 ⟨Nat.zero_le _, fun x hx => ?_⟩
      obtain ⟨p, hp, rfl⟩ := List.mem_map.1 hx
      rcases List.mem_append.1 (hperm.mem_iff.2 hp) with hi | ht
      · exact (List.pairwise_append.1 hsorted).2.2 p hi top (by simp)
      · rw [List.mem_singleton.1 ht]; exact Nat.le_refl _
    · exact ((foldl_max_le_iff _ 0 _).1 (Nat.le_refl _)).2 _ (List.mem_map.2 ⟨top, hperm.mem_iff.1 (by simp), rfl⟩)
  refine ⟨top, init, hw, hmax.symm, by simpa using hperm.length_eq, fun r hr heq => ?_⟩
  have hnd := (hperm.map (·.am)).nodup_iff.2 hn
  rw [List.map_append, List.nodup_append] at hnd
  exact hnd.2.2 r.am (List.mem_map.2 ⟨r, hr, rfl⟩) top.am (by simp) (heq.trans hmax)

end BSE.Nwchem
