import BSEModel.Turbomole

/-! # `partition_lines`: cutting a text at the lines that meet a test undoes laying blocks out

Two layouts occur in the formats.  Plain: a block is a matching line followed by lines that do not match
(`splitAt_blocks`).  With `before=1`: a block is one line that does not match, then the matching line, then lines that
do not match; the cut leaves the line before with the previous block and `stealOne` hands it on (`split_steal`).
`splitAt` and `stealOne` are the model of `helpers.partition_lines` and stand in `BSEModel/Turbomole.lean`, hence the namespace;
the Gaussian94 ECP reader's own copies equal them (`G94.splitBlocks_eq`, `G94.steal_eq`). -/

namespace BSE.Turbomole
variable {α : Type}

theorem splitAt_none (cond : α → Bool) (l rest : List α) (h : ∀ x ∈ l, cond x = false) :
    splitAt cond (l ++ rest) = (l ++ (splitAt cond rest).1, (splitAt cond rest).2) := by
  induction l with
  | nil => simp
  | cons a as ih =>
    have ha : cond a = false := h a (by simp)
    simp only [List.cons_append, splitAt, ha, Bool.false_eq_true, if_false, ih (fun x hx => h x (by simp [hx]))]

theorem splitAt_blocks {β : Type} (cond : α → Bool) (hd : β → α) (body : β → List α) (l : List β)
    (hhead : ∀ x ∈ l, cond (hd x) = true) (hbody : ∀ x ∈ l, ∀ y ∈ body x, cond y = false) :
    splitAt cond (l.flatMap fun x => hd x :: body x) = ([], l.map fun x => hd x :: body x) := by
  induction l with
  | nil => rfl
  | cons b bs ih =>
    have ihb := ih (fun b' hb' => hhead b' (by simp [hb'])) (fun b' hb' => hbody b' (by simp [hb']))
    simp only [List.flatMap_cons, List.cons_append, List.map_cons]
    simp [splitAt, hhead b (by simp), splitAt_none cond (body b) _ (hbody b (by simp)), ihb]

/-- a block of the `before=1` layout: the line before, the matching line, the rest -/
def lines3 (b : α × α × List α) : List α := b.1 :: b.2.1 :: b.2.2

/-- `pre` is what the induction carries: the lines in front of the one that `stealOne` hands on -/
theorem split_steal_pre (cond : α → Bool) (bs : List (α × α × List α)) (hne : bs ≠ [])
    (h : ∀ b ∈ bs, cond b.1 = false ∧ cond b.2.1 = true ∧ ∀ x ∈ b.2.2, cond x = false) :
    ∃ x r rs, splitAt cond (bs.flatMap lines3) = ([x], r :: rs)
      ∧ ∀ pre, stealOne (pre ++ [x]) (r :: rs) = pre :: bs.map lines3 := by
  induction bs with
  | nil => exact absurd rfl hne
  | cons b cs ih =>
    obtain ⟨h1, h2, h3⟩ := h b (by simp)
    cases cs with
    | nil =>
      refine ⟨b.1, b.2.1 :: b.2.2, [], ?_, ?_⟩
      · have := splitAt_none cond b.2.2 [] h3
        simp only [List.append_nil] at this
        simp [lines3, splitAt, h1, h2, this]
      · intro pre
        simp [stealOne, lines3]
    | cons c cs =>
      obtain ⟨x, r, rs, hs, hst⟩ := ih (by simp) (fun b' hb' => h b' (List.mem_cons_of_mem _ hb'))
      refine ⟨b.1, b.2.1 :: (b.2.2 ++ [x]), r :: rs, ?_, ?_⟩
      · show splitAt cond (b.1 :: b.2.1 :: (b.2.2 ++ (c :: cs).flatMap lines3)) = _
        simp only [splitAt, h1, h2, Bool.false_eq_true, if_false, if_true]
        rw [splitAt_none cond b.2.2 _ h3, hs]
      · intro pre
        show (pre ++ [b.1]).dropLast :: stealOne ((pre ++ [b.1]).getLast?.toList ++ _) (r :: rs) = _
        rw [List.dropLast_concat, List.getLast?_concat]
        exact congrArg (pre :: ·) (hst (lines3 b))

/-- the cut leaves the first line before alone, and handing the lines before on gives the blocks back -/
theorem split_steal (cond : α → Bool) (bs : List (α × α × List α)) (hne : bs ≠ [])
    (h : ∀ b ∈ bs, cond b.1 = false ∧ cond b.2.1 = true ∧ ∀ x ∈ b.2.2, cond x = false) :
    ∃ x r rs, splitAt cond (bs.flatMap lines3) = ([x], r :: rs) ∧ stealOne [x] (r :: rs) = [] :: bs.map lines3 :=
  let ⟨x, r, rs, hs, hst⟩ := split_steal_pre cond bs hne h
  ⟨x, r, rs, hs, hst []⟩

/-- a separator written behind every block (the `*` lines of the Turbomole writers) read as the line in front of the next:
the same text, bracketed the way the `before=1` layout needs it -/
theorem rotate_sep (a : α) (f : β → List α) (l : List β) :
    a :: l.flatMap (fun x => f x ++ [a]) = l.flatMap (fun x => a :: f x) ++ [a] := by
  induction l with
  | nil => rfl
  | cons x xs ih => simp [← ih]

end BSE.Turbomole
